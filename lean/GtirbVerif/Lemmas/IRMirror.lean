import GtirbVerif.Lemmas.IRFunc
import GtirbVerif.Lemmas.IRAll

/-!
# The function tables through every step of the IR model

The primitives write `functions_by_block` (`ir.fbb`), `functionBlocks` and `functionEntries` in three ways
only: a new block joins the function of the block it was split from (`add_function_block_aux`), a block leaves
(`remove_function_block_aux`), and before it leaves the next block of its function may be promoted to an entry.
A predicate that survives the three, and every step that keeps the tables and drops no block (`FuncsInv`),
survives whole rewrites; `MInv` is one: `Mirror` (the cache says `f` exactly when the table lists the block
under `f`) together with `FKeys` (the cache speaks of blocks only), which makes the id of a new block a new key.
-/
namespace GtirbVerif.IR
open GtirbVerif.Adt (CfgNode Label Edge)

universe u

/-- every key of the cache names a block of the block table (attached or detached) -/
def FKeys (ir : IR) : Prop := ∀ b, alookup b ir.fbb ≠ none → ir.block? b ≠ none

/-- **cache and table in step**, and the cache speaks of blocks only -/
def MInv (ir : IR) : Prop := Mirror ir ∧ FKeys ir

theorem Mirror.of_same {a b : IR} (hf : b.fbb = a.fbb) (hb : b.aux.funcBlocks = a.aux.funcBlocks) (h : Mirror a) :
    Mirror b := by
  intro c f
  unfold IR.inFunc
  rw [hf, hb]
  exact h c f

def Stay (a b : IR) : Prop := ∀ c, a.block? c ≠ none → b.block? c ≠ none

theorem Stay.refl (a : IR) : Stay a a := fun _ h => h
theorem Stay.trans {a b c : IR} (h1 : Stay a b) (h2 : Stay b c) : Stay a c := fun k h => h2 k (h1 k h)
theorem Stay.of_blocks {a b : IR} (h : b.blocks = a.blocks) : Stay a b := by
  intro c hc; rw [block?_congr h]; exact hc

theorem Stay.of_ids {a b : IR} (h : ∀ c ∈ a.ids, c ∈ b.ids) : Stay a b := fun c hc =>
  (block?_ne_none_iff b c).mpr (h c ((block?_ne_none_iff a c).mp hc))

theorem Keeps.stay {a b : IR} (hk : Keeps a b) : Stay a b := fun _ => hk.block

theorem setBlock_stay (ir : IR) (nb : Block) : Stay ir (ir.setBlock nb) :=
  Stay.of_ids fun c hc => by rw [setBlock_ids]; exact hc

def IR.funcs (ir : IR) : List (Nat × Nat) × List (Nat × List Nat) × List (Nat × List Nat) :=
  (ir.fbb, ir.aux.funcBlocks, ir.aux.funcEntries)

def IR.funcsView (ir : IR) : (List (Nat × Nat) × List (Nat × List Nat) × List (Nat × List Nat)) × List Block :=
  (ir.funcs, ir.blocks)

theorem funcsView_graphFree : GraphFree IR.funcsView := fun _ _ _ _ => rfl

structure FuncsInv (P : IR → Prop) : Prop where
  /-- a step that writes no function table keeps `P` if it takes no block out of the block table: `P` says that
  the cache speaks of blocks only (`keys`) -/
  same : ∀ {a b : IR}, b.funcs = a.funcs → Stay a b → P a → P b
  add : ∀ (x : IR) (b f : Nat), alookup b x.fbb = none → x.block? b ≠ none → P x → P (x.addFunctionBlock b f)
  remove : ∀ (x : IR) (b : Nat), P x → P (x.removeFunctionBlock b)
  promote : ∀ (x : IR) (f e : Nat), alookup e x.fbb = some f → P x →
    P { x with aux := { x.aux with funcEntries := setAdd f e x.aux.funcEntries } }
  /-- the cache speaks of blocks only: this is what makes the id of a new block a new key -/
  keys : ∀ x, P x → FKeys x

namespace FuncsInv
variable {P : IR → Prop} (hP : FuncsInv P)
include hP

theorem of_view {a b : IR} (h : b.funcsView = a.funcsView) (hp : P a) : P b :=
  hP.same (congrArg (·.1) h) (Stay.of_blocks (congrArg (·.2) h)) hp

theorem setBlock (x : IR) (b : Block) (h : P x) : P (x.setBlock b) := hP.same (a := x) rfl (setBlock_stay x b) h

theorem not_key {x : IR} (hp : P x) {k : Nat} (hk : x.block? k = none) : alookup k x.fbb = none :=
  Classical.not_not.mp fun hc => hP.keys x hp k hc hk

theorem splitCode (x : IR) (b nb : Nat) (e : Bool) (hnew : alookup nb x.fbb = none) (hblk : x.block? nb ≠ none) (h : P x) :
    P (x.splitCode b nb e).1 := by
  obtain ⟨y, he, hy⟩ := splitCode_split x b nb e
  have py := hP.of_view (hy IR.funcsView funcsView_graphFree.cfg) h
  rw [he]
  unfold IR.inheritFunction
  split
  · exact hP.add y nb _ ((hy (alookup nb ·.fbb) (fun _ _ => rfl)).trans hnew) ((hy (·.block? nb) (fun _ _ => rfl)) ▸ hblk) py
  · exact py

theorem splitBlock {ir ir' : IR} {b off nb : Nat} {added : Bool} (h : ir.splitBlock b off = .ok (ir', nb, added))
    (hI : IdsBelow ir) (hp : P ir) : P ir' := by
  obtain ⟨blk, sect, _, _, _, rfl, r, hr, _, rfl⟩ := splitBlock_ok h
  have hnew : alookup ir.next ir.fbb = none := hP.not_key hp (hI.fresh (Nat.le_refl _))
  have py : P ((ir.splitBlocks blk ir.next off).splitSyms b ir.next) :=
    hP.same (a := ir) rfl ((setBlock_stay ir { blk with size := off }).trans (append_keeps _ _ _ rfl).stay) hp
  have hblk : ((ir.splitBlocks blk ir.next off).splitSyms b ir.next).block? ir.next ≠ none :=
    (block?_ne_none_iff _ _).mpr (List.mem_map.mpr ⟨_, List.mem_append_right _ List.mem_cons_self, rfl⟩)
  have pr : P r.1 := by
    rw [hr]
    cases blk.isCode
    · exact py
    · exact hP.splitCode _ _ _ _ hnew hblk py
  exact hP.of_view (a := r.1) rfl pr

theorem joinBlocks {ir ir' : IR} {id1 id2 : Nat} (h : ir.joinBlocks id1 id2 = .ok ir') (hp : P ir) : P ir' := by
  obtain ⟨b1, b2, h1, h2⟩ := joinBlocks_blocks h
  obtain ⟨_, sect, _, rfl⟩ := joinBlocks_ok h h1 h2
  have p2 : P (bif b2.isCode then (ir.joinSyms b1 id2).joinCode b1 id2 b2.size else ir.joinSyms b1 id2) := by
    have p1 : P (ir.joinSyms b1 id2) := hP.of_view (a := ir) rfl hp
    cases b2.isCode
    · exact p1
    · obtain ⟨i3, he, hi⟩ := joinCode_split (ir.joinSyms b1 id2) b1 id2 b2.size
      rw [cond_true, he]
      exact hP.remove i3 id2 (hP.of_view (hi IR.funcsView funcsView_graphFree.cfg) p1)
  -- the two entries of the block table are rewritten, none is dropped
  generalize (bif b2.isCode then (ir.joinSyms b1 id2).joinCode b1 id2 b2.size else ir.joinSyms b1 id2) = y at p2
  have p3 := hP.setBlock _ { b1 with size := b1.size + b2.size } (hP.of_view (a := y) (b := y.joinTables b1 id2 b2.isCode) rfl p2)
  generalize IR.setBlock _ { b1 with size := b1.size + b2.size } = z at p3
  exact hP.setBlock _ _ (hP.of_view (a := z) rfl p3)

theorem removeFunctions (x : IR) (blk : Block) (n : Option Nat) (nc : Bool) (h : P x) : P (x.removeFunctions blk n nc) := by
  rcases removeFunctions_cases x blk n nc with e | e | ⟨f, hf, _, _, hs, e⟩ <;> rw [e]
  · exact h
  · exact hP.remove _ _ h
  · exact hP.remove _ _ (hP.promote x f _ ((sameFunction_left hf _).mp hs) h)

theorem removeStages (x : IR) (blk : Block) (t c : Bool) (px p n : Option Nat) (h : P x) :
    P (x.removeStages blk t c px p n) := by
  -- `removeCfi` and `removeAuxEntries` write tables the invariant does not read
  have tail : ∀ y : IR, P y → P (((y.removeOutEdges blk).removeAuxEntries blk).removeCfi blk.id (x.requiredCfi blk) p n
      (x.isCodeBlockId p) (x.isCodeBlockId n)) := fun y hy => by
    have hy := hP.of_view (removeOutEdges_obs IR.funcsView funcsView_graphFree y blk) hy
    generalize y.removeOutEdges blk = z at hy
    exact hP.of_view (a := z) rfl hy
  cases c
  · exact tail x h
  · refine tail _ (hP.of_view (removeEntrypoints_obs IR.funcsView (fun _ _ _ _ _ _ => rfl) ..) (hP.removeFunctions _ blk _ _ ?_))
    exact hP.of_view (removeInEdges_obs IR.funcsView funcsView_graphFree ..) (hP.of_view (a := x) rfl h)

theorem removeBlock {ir ir' : IR} {b : Nat} {px r : Bool} (h : ir.removeBlock b px = .ok (ir', r)) (hp : P ir) : P ir' := by
  obtain ⟨blk, hb⟩ := removeBlock_block h
  obtain ⟨sect, _, _, rfl⟩ := removeBlock_ok h hb
  have p4 : ∀ c, P ((ir.withProxy px).removeStages blk px c (if px then some ir.next else none) (ir.adjacent blk).1
      (ir.adjacent blk).2) := fun c =>
    hP.removeStages _ blk px c _ _ _ (hP.of_view (withProxy_obs IR.funcsView funcsView_graphFree.ids ir px) hp)
  cases r
  · have p := p4 false
    generalize IR.removeStages _ blk px false _ _ _ = x at p
    exact hP.of_view (keepEmpty_obs IR.funcsView funcsView_graphFree _ blk) (hP.setBlock _ _ p)
  · have p := p4 true
    generalize IR.removeStages _ blk px true _ _ _ = x at p
    exact hP.setBlock _ _ (hP.of_view (a := x) rfl p)

theorem editInterval (ir : IR) (i off len : Nat) (c st : List Nat) (h : P ir) : P (ir.editInterval i off len c st) :=
  hP.same (editInterval_obs IR.funcs (fun _ _ _ _ => rfl) ..) (editInterval_touches ir i off len c st).1.stay h

theorem connectEmptyTail (ir : IR) (t : Nat) (h : P ir) : P (ir.connectEmptyTail t) :=
  hP.of_view (connectEmptyTail_obs IR.funcsView funcsView_graphFree.cfg ..) h

end FuncsInv

theorem MInv.of_same {a b : IR} (hf : b.fbb = a.fbb) (hb : b.aux.funcBlocks = a.aux.funcBlocks) (hk : Stay a b)
    (h : MInv a) : MInv b :=
  ⟨h.1.of_same hf hb, fun c hc => hk c (h.2 c (by rw [← hf]; exact hc))⟩

theorem minv_funcs : FuncsInv MInv where
  same hf hk h := h.of_same (congrArg (·.1) hf) (congrArg (·.2.1) hf) hk
  add x b f hnew hblk h := by
    refine ⟨addFunctionBlock_mirror x b f h.1 hnew, fun c hc => ?_⟩
    show x.block? c ≠ none
    by_cases hcb : c = b
    · subst hcb; exact hblk
    · exact h.2 c (by rw [← alookup_aset_other _ _ _ _ hcb]; exact hc)
  remove x b h := ⟨removeFunctionBlock_mirror x b h.1, fun c hc =>
    Stay.of_blocks (core_blocks (removeFunctionBlock_core x b)) c (h.2 c fun hn => hc (by
      rw [removeFunctionBlock_lookup, hn]; exact ite_self _))⟩
  promote _ _ _ _ h := h.of_same rfl rfl (Stay.of_blocks rfl)
  keys _ h := h.2

theorem MInv.fresh {ir : IR} (h : MInv ir) (hI : IdsBelow ir) {k : Nat} (hk : ir.next ≤ k) : alookup k ir.fbb = none :=
  minv_funcs.not_key h (hI.fresh hk)

theorem splitBlock_minv {ir ir' : IR} {b off nb : Nat} {added : Bool}
    (h : ir.splitBlock b off = .ok (ir', nb, added)) (hm : MInv ir) (hI : IdsBelow ir) : MInv ir' :=
  minv_funcs.splitBlock h hI hm

theorem addOthers_funcs {ir ir' : IR} {p : Patch} (h : ir.addOthers p = .ok ir') : ir'.funcs = ir.funcs :=
  addOthers_rel (R := fun a b => b.funcs = a.funcs) (fun _ => rfl) (fun h1 h2 => h2.trans h1)
    (fun _ _ => rfl) (fun _ _ _ _ _ _ hao => by
      obtain ⟨kept, aux1, _, rfl, ⟨hfb, hfe, _⟩, _⟩ := addOtherSection_ok hao
      refine (orderAppend_obs IR.funcs (fun _ _ => rfl) ..).trans ?_
      show (_, aux1.funcBlocks, aux1.funcEntries) = _
      rw [hfb, hfe]; rfl) h

theorem addOthers_fbb {ir ir' : IR} {p : Patch} (h : ir.addOthers p = .ok ir') : ir'.fbb = ir.fbb :=
  congrArg (·.1) (addOthers_funcs h)

/-- `insert` as the function tables see it: the split; `addPatchFunctions` on a state `A` with the function tables of
the split state and the patch's blocks added to its block table; the other sections; the clean-up -/
theorem insert_ok_funcs {ir ir' : IR} {b off repl last : Nat} {p : Patch}
    (h : ir.insert b off repl p = .ok (ir', last)) :
    ∃ blk ir2 endB added, ∃ A ir12 : IR, ir.block? b = some blk ∧ ir.insertSplit b off repl = .ok (ir2, endB, added) ∧
      A.funcs = ir2.funcs ∧ A.ids = ir2.ids ++ p.text.blocks.map (·.id) ∧
      (A.addPatchFunctions blk p.text.blocks).addOthers p = .ok ir12 ∧
      (ir12.bumpNext p).cleanup ([b] ++ p.text.blocks.map (·.id) ++ [endB]) = .ok (ir', last) := by
  obtain ⟨blk, j, sect, ir2, endB, added, ir12, hb, hbi, hsect, hs, ho, hc⟩ := insert_ok h
  have hPids := insertPlace_ids ir ir2 blk j b off repl endB added p
  have hPf := insertPlace_obs IR.funcs (fun _ _ => rfl) (fun _ _ _ _ => rfl) ir ir2 blk j b off repl endB added p
  generalize ir.insertPlace ir2 blk j b off repl endB added p = P at ho hPids hPf
  obtain ⟨A, hA, hAπ⟩ := insertTables_split ir ir2 P blk j sect b off p
  rw [hA] at ho
  exact ⟨blk, ir2, endB, added, A, ir12, hb, hs,
    (hAπ IR.funcs (fun _ _ => rfl) (fun _ _ _ _ _ _ _ _ _ _ _ => rfl)).trans hPf,
    (ids_of_blocks (hAπ IR.blocks (fun _ _ => rfl) (fun _ _ _ _ _ _ _ _ _ _ _ => rfl))).trans hPids, ho, hc⟩

namespace FuncsInv
variable {P : IR → Prop} (hP : FuncsInv P)
include hP

theorem carried : Carried P where
  split h hI hp := hP.splitBlock h hI hp
  join h _ hp := hP.joinBlocks h hp
  remove h hp := hP.removeBlock h hp
  tail t hp := hP.connectEmptyTail _ t hp
  edit i off len c st hp := hP.editInterval _ i off len c st hp

theorem addPatchFunctions (x : IR) (blk : Block) (tb : List Block) (hnd : (tb.map (·.id)).Nodup)
    (hnew : ∀ c ∈ tb.map (·.id), alookup c x.fbb = none ∧ x.block? c ≠ none) (h : P x) :
    P (x.addPatchFunctions blk tb) := by
  unfold IR.addPatchFunctions
  split
  · split
    · rename_i f hf
      clear hf
      induction tb generalizing x with
      | nil => exact h
      | cons b tb ih =>
        obtain ⟨hb, hnd⟩ := List.nodup_cons.mp hnd
        have htl := fun c hc => hnew c (List.mem_cons_of_mem _ hc)
        rw [List.foldl_cons]
        by_cases hc : b.isCode = true
        · rw [if_pos hc]
          obtain ⟨hk, hblk⟩ := hnew b.id List.mem_cons_self
          -- the ids still to come differ from `b.id`, so they are no keys yet
          refine ih _ hnd (fun c hc => ⟨?_, (htl c hc).2⟩) (hP.add x b.id f hk hblk h)
          exact (alookup_aset_other _ _ _ _ fun he : c = b.id => hb (show b.id ∈ _ from he ▸ hc)).trans (htl c hc).1
        · rw [if_neg hc]
          exact ih x hnd htl h
    · exact h
  · exact h

theorem adoptPatchBlocks (x : IR) (p : Patch) (f : Nat) (h : P x) : P (x.adoptPatchBlocks p f) := by
  unfold IR.adoptPatchBlocks
  refine foldl_inv P _ (fun y b hy => ?_) _ _ h
  split
  · rename_i blk hb
    split
    · rename_i hc
      simp only [Bool.and_eq_true, Option.isNone_iff_eq_none] at hc
      exact hP.add y b.id f hc.2 (by rw [hb]; exact Option.some_ne_none _) hy
    · exact hy
  · exact hy

theorem insert {ir ir' : IR} {b off repl last : Nat} {p : Patch}
    (h : ir.insert b off repl p = .ok (ir', last)) (hI : IdsBelow ir)
    (hnew : ∀ c ∈ p.text.blocks.map (·.id), ir.block? c = none ∧ c < ir.next) (hnd : (p.text.blocks.map (·.id)).Nodup)
    (hp : P ir) : P ir' := by
  obtain ⟨blk, ir2, endB, added, A, ir12, _, hs, hA, hAids, ho, hc⟩ := insert_ok_funcs h
  have p2 := hP.carried.insertSplit hs hI hp
  -- the patch's code joins the function of the block: its ids name blocks now, and are no keys of the cache yet
  -- (the cache speaks of blocks only, and after the split they named none)
  have pF := hP.addPatchFunctions A blk p.text.blocks hnd
    (fun c hc => by
      obtain ⟨hn, hlt⟩ := hnew c hc
      rw [show A.fbb = ir2.fbb from congrArg (·.1) hA]
      exact ⟨hP.not_key p2 (insertSplit_fresh hs hn hlt), (block?_ne_none_iff A c).mpr (hAids ▸ List.mem_append_right _ hc)⟩)
    (hP.same hA (Stay.of_ids fun c hc => hAids ▸ List.mem_append_left _ hc) p2)
  have pO : P ir12 :=
    hP.same (addOthers_funcs ho) (addOthers_ext ho).keeps.stay pF
  refine cleanup_rel (R := fun a b => P a → P b) (fun _ h => h) (fun h1 h2 h => h2 (h1 h)) hP.joinBlocks hP.removeBlock hc
    (hP.of_view (a := ir12) rfl pO)

theorem loopInsert {ir ir' : IR} {func : Option Nat} {ab : Block} {a ao repl last : Nat} {p : Patch}
    (h : ir.loopInsert func ab a ao repl p = .ok (ir', last)) (hI : IdsBelow ir)
    (hnew : ∀ c ∈ p.text.blocks.map (·.id), ir.block? c = none ∧ c < ir.next) (hnd : (p.text.blocks.map (·.id)).Nodup)
    (hp : P ir) : P ir' := by
  obtain ⟨ir1, hins, h' | ⟨f, h'⟩⟩ := loopInsert_ok h <;> rw [h']
  · exact hP.insert hins hI hnew hnd hp
  · exact hP.adoptPatchBlocks ir1 p f (hP.insert hins hI hnew hnd hp)

theorem applyMods (origOff i : Nat) (func : Option Nat) : ∀ (ms : List Mod) (ir ir' : IR) (actual : Option Nat)
    (total : Int),
    IR.applyMods origOff func ir actual total ms = .ok ir' →
    (∀ a, actual = some a → In i ir a) → IdsBelow ir → NewBlocks origOff func ir actual total ms → P ir → P ir' := by
  intro ms
  induction ms with
  | nil =>
    intro ir ir' actual total h _ _ _ hp
    unfold IR.applyMods at h
    injection h with h; subst h
    exact hp
  | cons m ms ih =>
    intro ir ir' actual total h hact hI hnew hp
    obtain ⟨a, ab, rfl, hab, _, hstep⟩ := applyMods_cons_ok h
    have hin := hact a rfl
    rcases hstep with ⟨o, repl, p, ir1, last, rfl, hl, h⟩ | ⟨o, len, px, ir1, r, rfl, hd, h⟩
    · obtain ⟨hfresh, hnd, hnext⟩ := hnew.ins hab
      obtain ⟨hI1, hin1, _⟩ := loopInsert_table hl hin hI hfresh
      exact ih ir1 ir' (some last) _ h (fun a' ha' => by injection ha' with ha'; subst ha'; exact hin1) hI1 (hnext ir1 last hl)
        (hP.loopInsert hl hI hfresh hnd hp)
    · obtain ⟨hI1, hin1, _⟩ := delete_table hd hin hI
      exact ih ir1 ir' r _ h hin1 hI1 (hnew.del hab ir1 r hd) (hP.carried.delete hd hI hp)

theorem applyAll : ∀ (rs : List BlockMods) (ir ir' : IR),
    ir.applyAll rs = .ok ir' → IdsBelow ir → (∀ r ∈ rs, ReqOk ir r) → (rs.map (ivOf ir)).Nodup → NewBlocksAll ir rs →
    P ir → P ir' := by
  intro rs
  induction rs with
  | nil =>
    intro ir ir' h _ _ _ _ hp
    unfold IR.applyAll at h
    injection h with h; subst h; exact hp
  | cons r rest ih =>
    intro ir ir' h hI hok hnd hnew hp
    obtain ⟨blk, ir1, hb, hmod, h⟩ := applyAll_cons_ok h
    obtain ⟨hn1, hn2⟩ := hnew.cons hb
    obtain ⟨hI1, hok1, hnd1⟩ := applyAll_step hb hmod hI hok hnd hn1
    obtain ⟨i, _, hact⟩ := (hok r List.mem_cons_self).start hb
    exact ih ir1 ir' h hI1 hok1 hnd1 (hn2 ir1 hmod)
      (hP.applyMods blk.off i r.func r.mods ir ir1 (some r.block) 0 hmod hact hI hn1 hp)

end FuncsInv

theorem delete_minv {ir ir' : IR} {b off len : Nat} {px : Bool} {r : Option Nat}
    (h : ir.delete b off len px = .ok (ir', r)) (hm : MInv ir) (hI : IdsBelow ir) : MInv ir' :=
  minv_funcs.carried.delete h hI hm

theorem insert_minv {ir ir' : IR} {b off repl last : Nat} {p : Patch}
    (h : ir.insert b off repl p = .ok (ir', last)) (hm : MInv ir) (hI : IdsBelow ir)
    (hnew : ∀ c ∈ p.text.blocks.map (·.id), ir.block? c = none) (hlt : ∀ c ∈ p.text.blocks.map (·.id), c < ir.next)
    (hnd : (p.text.blocks.map (·.id)).Nodup) :
    MInv ir' :=
  minv_funcs.insert h hI (fun c hc => ⟨hnew c hc, hlt c hc⟩) hnd hm

theorem loopInsert_minv {ir ir' : IR} {func : Option Nat} {ab : Block} {a ao repl last : Nat} {p : Patch}
    (h : ir.loopInsert func ab a ao repl p = .ok (ir', last)) (hm : MInv ir) (hI : IdsBelow ir)
    (hnew : ∀ c ∈ p.text.blocks.map (·.id), ir.block? c = none) (hlt : ∀ c ∈ p.text.blocks.map (·.id), c < ir.next)
    (hnd : (p.text.blocks.map (·.id)).Nodup) : MInv ir' :=
  minv_funcs.loopInsert h hI (fun c hc => ⟨hnew c hc, hlt c hc⟩) hnd hm

/-- **cache and table stay in step through the whole loop over the requests of a block** -/
theorem applyMods_minv (origOff i : Nat) (func : Option Nat) : ∀ (ms : List Mod) (ir ir' : IR) (actual : Option Nat)
    (total : Int),
    IR.applyMods origOff func ir actual total ms = .ok ir' →
    (∀ a, actual = some a → In i ir a) → IdsBelow ir → NewBlocks origOff func ir actual total ms → MInv ir → MInv ir' :=
  minv_funcs.applyMods origOff i func

/-- **cache and table stay in step through `apply()`'s whole loop over the blocks** -/
theorem applyAll_minv : ∀ (rs : List BlockMods) (ir ir' : IR),
    ir.applyAll rs = .ok ir' → IdsBelow ir → (∀ r ∈ rs, ReqOk ir r) → (rs.map (ivOf ir)).Nodup → NewBlocksAll ir rs →
    MInv ir → MInv ir' :=
  minv_funcs.applyAll

end GtirbVerif.IR
