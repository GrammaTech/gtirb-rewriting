import GtirbVerif.Model.IR.Modify
import GtirbVerif.Lemmas.Basics

/-!
# Tables of the IR model

Blocks and intervals live in lists looked up by id, the aux-data and cache tables are association lists,
the CFG is a list of edges used as a set.  The lemmas say what a lookup or a membership test gives after
each way of writing such a table, so that no proof has to open `List.find?` or `List.filter`.
-/
namespace GtirbVerif.IR
open GtirbVerif.Adt (CfgNode Label Edge)

theorem find?_key_eq {α} (key : α → Nat) {l : List α} {i : Nat} {a : α}
    (h : l.find? (key · == i) = some a) : key a = i := by
  simpa using List.find?_some h

theorem find?_map_key {α} (key : α → Nat) (f : α → α) (hid : ∀ x, key (f x) = key x) (l : List α) (c : Nat) :
    (l.map f).find? (key · == c) = (l.find? (key · == c)).map f := by
  induction l with
  | nil => rfl
  | cons x xs ih =>
    simp only [List.map_cons, List.find?_cons, hid]
    split
    · rfl
    · exact ih

/-- the map `setBlock` and `setInterval` apply keeps the ids -/
theorem replace_key {α} (key : α → Nat) (n x : α) : key (if key x == key n then n else x) = key x := by
  split
  · rename_i h; exact (beq_iff_eq.mp h).symm
  · rfl

theorem find?_map_replace {α} (key : α → Nat) (n : α) (l : List α) (c : Nat) :
    (l.map (fun x => if key x == key n then n else x)).find? (key · == c) =
      if c = key n then (l.find? (key · == c)).map (fun _ => n) else l.find? (key · == c) := by
  rw [find?_map_key key _ (replace_key key n)]
  cases h : l.find? (key · == c) with
  | none => simp only [Option.map_none, ite_self]
  | some x =>
    -- the record found has id `c`, so the map replaces it exactly when `c` is the id written
    rw [Option.map_some, Option.map_some, find?_key_eq key h]
    by_cases hc : c = key n
    · rw [if_pos hc, if_pos (by rw [hc]; exact beq_self_eq_true _)]
    · rw [if_neg hc, if_neg (by simpa using hc)]

theorem block?_id {ir : IR} {b : Nat} {blk : Block} (h : ir.block? b = some blk) : blk.id = b :=
  find?_key_eq Block.id h

theorem block?_congr {a b : IR} (h : a.blocks = b.blocks) : a.block? = b.block? := by
  funext c; unfold IR.block?; rw [h]

theorem block?_map {a b : IR} (f : Block → Block) (hid : ∀ x, (f x).id = x.id) (h : b.blocks = a.blocks.map f) (c : Nat) :
    b.block? c = (a.block? c).map f := by
  unfold IR.block?
  rw [h, find?_map_key Block.id f hid]

theorem block?_append {a b : IR} {extra : List Block} (h : b.blocks = a.blocks ++ extra) (c : Nat) :
    b.block? c = (a.block? c).or (extra.find? (·.id == c)) := by
  unfold IR.block?
  rw [h, List.find?_append]

theorem block?_setBlock (ir : IR) (nb : Block) (c : Nat) :
    (ir.setBlock nb).block? c = if c = nb.id then (ir.block? c).map (fun _ => nb) else ir.block? c :=
  find?_map_replace Block.id nb ir.blocks c

theorem block?_setBlock_some (ir : IR) (nb old : Block) (h : ir.block? nb.id = some old) (c : Nat) :
    (ir.setBlock nb).block? c = if c = nb.id then some nb else ir.block? c := by
  rw [block?_setBlock]
  split
  · rename_i hc; rw [hc, h]; rfl
  · rfl

theorem interval?_id {ir : IR} {i : Nat} {iv : Interval} (h : ir.interval? i = some iv) : iv.id = i :=
  find?_key_eq Interval.id h

theorem interval?_congr {a b : IR} (h : a.intervals = b.intervals) : a.interval? = b.interval? := by
  funext c; unfold IR.interval?; rw [h]

theorem interval?_append {a b : IR} {extra : List Interval} (h : b.intervals = a.intervals ++ extra) (c : Nat) :
    b.interval? c = (a.interval? c).or (extra.find? (·.id == c)) := by
  unfold IR.interval?
  rw [h, List.find?_append]

theorem interval?_setInterval (ir : IR) (nv : Interval) (c : Nat) :
    (ir.setInterval nv).interval? c = if c = nv.id then (ir.interval? c).map (fun _ => nv) else ir.interval? c :=
  find?_map_replace Interval.id nv ir.intervals c

theorem mem_setInterval {ir : IR} {nv iv : Interval} (h : iv ∈ (ir.setInterval nv).intervals) :
    iv = nv ∨ iv ∈ ir.intervals := by
  obtain ⟨x, hx, rfl⟩ := List.mem_map.mp h
  split
  · exact Or.inl rfl
  · exact Or.inr hx

theorem alookup_aset {β} (k j : Nat) (v : β) (l : List (Nat × β)) :
    alookup j (aset k v l) = if j = k then some v else alookup j l := by
  induction l with
  | nil => simp only [aset, alookup, eq_comm]
  | cons x xs ih =>
    obtain ⟨k', v'⟩ := x
    unfold aset
    by_cases hk : k' = k
    · subst hk
      rw [if_pos rfl]
      simp only [alookup]
      by_cases hj : k' = j
      · rw [if_pos hj, if_pos hj.symm]
      · rw [if_neg hj, if_neg (Ne.symm hj), if_neg hj]
    · rw [if_neg hk]
      simp only [alookup]
      by_cases hj : k' = j
      · rw [if_pos hj, if_pos hj, if_neg (by rw [← hj]; exact hk)]
      · rw [if_neg hj, if_neg hj, ih]

theorem getD_alookup_aset {β} (k j : Nat) (v : List β) (l : List (Nat × List β)) :
    (alookup j (aset k v l)).getD [] = if j = k then v else (alookup j l).getD [] := by
  rw [alookup_aset]
  split <;> rfl

theorem alookup_mem {β} (k : Nat) (v : β) : ∀ (l : List (Nat × β)), alookup k l = some v → (k, v) ∈ l := by
  intro l
  induction l with
  | nil => intro h; cases h
  | cons x xs ih =>
    intro h
    obtain ⟨k', v'⟩ := x
    unfold alookup at h
    split at h
    · rename_i hk
      injection h with h; subst h; subst hk
      exact List.mem_cons_self
    · exact List.mem_cons_of_mem _ (ih h)

theorem alookup_adel {β} (k j : Nat) (l : List (Nat × β)) :
    alookup j (adel k l) = if j = k then none else alookup j l := by
  induction l with
  | nil => simp only [adel, List.filter_nil, alookup, ite_self]
  | cons x xs ih =>
    obtain ⟨k', v'⟩ := x
    unfold adel at ih ⊢
    by_cases hk : k' = k
    · subst hk
      rw [List.filter_cons_of_neg (by simp), ih]
      simp only [alookup]
      by_cases hj : k' = j
      · rw [if_pos hj.symm, if_pos hj.symm]
      · rw [if_neg (Ne.symm hj), if_neg (Ne.symm hj), if_neg hj]
    · rw [List.filter_cons_of_pos (by simpa using hk)]
      simp only [alookup]
      by_cases hj : k' = j
      · rw [if_pos hj, if_pos hj, if_neg (by rw [← hj]; exact hk)]
      · rw [if_neg hj, if_neg hj, ih]

theorem mem_aset {β} {k : Nat} {v : β} {ke : Nat × β} : ∀ {l : List (Nat × β)}, ke ∈ aset k v l → ke ∈ l ∨ ke = (k, v)
  | [], h => Or.inr (List.mem_singleton.mp h)
  | (k', v') :: r, h => by
    unfold aset at h
    split at h
    · rcases List.mem_cons.mp h with h | h
      · exact Or.inr h
      · exact Or.inl (List.mem_cons_of_mem _ h)
    · rcases List.mem_cons.mp h with h | h
      · exact Or.inl (h ▸ List.mem_cons_self)
      · exact (mem_aset h).imp (List.mem_cons_of_mem _) id

theorem alookup_aset_same {β} (k : Nat) (v : β) (l : List (Nat × β)) : alookup k (aset k v l) = some v := by
  rw [alookup_aset, if_pos rfl]

theorem alookup_aset_other {β} (k j : Nat) (v : β) (l : List (Nat × β)) (h : j ≠ k) :
    alookup j (aset k v l) = alookup j l := by
  rw [alookup_aset, if_neg h]

theorem alookup_adel_same {β} (k : Nat) (l : List (Nat × β)) : alookup k (adel k l) = none := by
  rw [alookup_adel, if_pos rfl]

theorem joinAlignment_none (al : List (Nat × Nat)) (id1 id2 : Nat) (h : id2 ≠ id1) :
    alookup id2 (joinAlignment al id1 id2) = none := by
  unfold joinAlignment
  simp only []
  split
  · rw [alookup_aset_other _ _ _ _ h]; exact alookup_adel_same _ _
  · exact alookup_adel_same _ _

theorem mem_addUnique (l : List Nat) (x y : Nat) : y ∈ addUnique l x ↔ y ∈ l ∨ y = x :=
  mem_addNew l x y

theorem mem_setAdd (k x g c : Nat) (t : List (Nat × List Nat)) :
    c ∈ (alookup g (setAdd k x t)).getD [] ↔ c ∈ (alookup g t).getD [] ∨ (g = k ∧ c = x) := by
  unfold setAdd
  rw [alookup_aset]
  by_cases hg : g = k
  · subst hg
    rw [if_pos rfl, Option.getD_some, mem_addUnique]
    simp only [true_and]
  · rw [if_neg hg]
    exact ⟨Or.inl, fun h => h.elim id (fun h => absurd h.1 hg)⟩

/-! ### `remove_function_block_aux`, one table -/

theorem dropMember_lookup (b f g : Nat) (t : List (Nat × List Nat)) (c : Nat) :
    c ∈ (alookup g (dropMember b f t).1).getD [] ↔
      c ∈ (alookup g t).getD [] ∧ (g = f → c ≠ b) := by
  have same : (alookup f t).getD [] = [] →
      (c ∈ (alookup g t).getD [] ↔ c ∈ (alookup g t).getD [] ∧ (g = f → c ≠ b)) :=
    fun he => ⟨fun h => ⟨h, fun hg => by rw [hg, he] at h; cases h⟩, fun h => h.1⟩
  unfold dropMember
  cases hl : alookup f t with
  | none => exact same (by rw [hl]; rfl)
  | some bs =>
    dsimp only
    by_cases he : bs.isEmpty = true
    · rw [if_pos he]
      exact same (by rw [hl]; exact List.isEmpty_iff.mp he)
    · rw [if_neg he, getD_alookup_aset]
      by_cases hg : g = f
      · rw [if_pos hg, hg, hl]
        simp only [Option.getD_some, List.mem_filter, bne_iff_ne, ne_eq, forall_const]
      · rw [if_neg hg]
        exact ⟨fun h => ⟨h, fun hh => absurd hh hg⟩, fun h => h.1⟩

theorem dropMember_flag_iff (b f : Nat) (t : List (Nat × List Nat)) :
    (dropMember b f t).2 = false ↔ ∀ c, c ∈ (alookup f t).getD [] → c = b := by
  unfold dropMember
  cases hl : alookup f t with
  | none => exact ⟨fun _ c hc => (nomatch hc), fun _ => rfl⟩
  | some bs =>
    dsimp only
    split
    · rename_i he
      rw [List.isEmpty_iff.mp he]
      exact ⟨fun _ c hc => (nomatch hc), fun _ => rfl⟩
    · rw [Bool.not_eq_false', List.isEmpty_iff, List.filter_eq_nil_iff]
      exact ⟨fun h c hc => Classical.byContradiction fun hne => h c hc (bne_iff_ne.mpr hne),
        fun h c hc hne => bne_iff_ne.mp hne (h c hc)⟩

theorem dropMember_adel (b f g : Nat) (t : List (Nat × List Nat)) (c : Nat) (h : (dropMember b f t).2 = false) :
    c ∈ (alookup g (adel f (dropMember b f t).1)).getD [] ↔ c ∈ (alookup g t).getD [] ∧ (g = f → c ≠ b) := by
  rw [alookup_adel]
  by_cases hg : g = f
  · subst hg
    rw [if_pos rfl]
    exact ⟨nofun, fun e => absurd ((dropMember_flag_iff b g t).mp h c e.1) (e.2 rfl)⟩
  · rw [if_neg hg]
    exact dropMember_lookup b f g t c

theorem mem_shiftKeys {β} (off len n : Nat) (m : List (Nat × β)) (k' : Nat) (v : β) :
    (k', v) ∈ shiftKeys off len n m ↔
      ∃ k, (k, v) ∈ m ∧ ((k < off ∧ k' = k) ∨ (off + len ≤ k ∧ k' = k + n - len)) := by
  unfold shiftKeys
  rw [List.mem_filterMap]
  constructor
  · rintro ⟨⟨k, w⟩, hm, hf⟩
    rcases ite_eq_iff.mp hf with ⟨hlt, hf⟩ | ⟨_, hf⟩
    · cases hf; exact ⟨_, hm, Or.inl ⟨hlt, rfl⟩⟩
    · rcases ite_eq_iff.mp hf with ⟨hge, hf⟩ | ⟨_, hf⟩
      · cases hf; exact ⟨k, hm, Or.inr ⟨hge, rfl⟩⟩
      · cases hf
  · rintro ⟨k, hm, ⟨hlt, rfl⟩ | ⟨hge, rfl⟩⟩
    · exact ⟨(k', v), hm, if_pos hlt⟩
    · exact ⟨(k, v), hm, (if_neg (by omega)).trans (if_pos hge)⟩

theorem mem_cfgAdd (cfg : List Edge) (e e' : Edge) : e' ∈ cfgAdd cfg e ↔ e' ∈ cfg ∨ e' = e :=
  mem_addNew cfg e e'

theorem mem_cfgDiscard (cfg : List Edge) (e e' : Edge) : e' ∈ cfgDiscard cfg e ↔ e' ∈ cfg ∧ e' ≠ e := by
  unfold cfgDiscard
  simp [List.mem_filter]

theorem mem_inEdges (ir : IR) (b : Nat) (e : Edge) : e ∈ ir.inEdges b ↔ e ∈ ir.cfg ∧ e.dst = .block b := by
  unfold IR.inEdges; simp [List.mem_filter]

theorem mem_outEdges (ir : IR) (b : Nat) (e : Edge) : e ∈ ir.outEdges b ↔ e ∈ ir.cfg ∧ e.src = .block b := by
  unfold IR.outEdges; simp [List.mem_filter]

theorem mem_returnEdgesOf (ir : IR) (b : Nat) (e : Edge) :
    e ∈ ir.returnEdgesOf b ↔ e ∈ ir.cfg ∧ Edge.isRet e = true ∧ e.src = .block b := by
  unfold IR.returnEdgesOf; simp [List.mem_filter]

end GtirbVerif.IR
