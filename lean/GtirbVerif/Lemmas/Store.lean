import GtirbVerif.Model.Rewrite.Store
import GtirbVerif.Lemmas.Sorting

/-!
# `_ModificationStore`: what comes out is what was registered, once, in listing order

What the store hands out for a block is an equation (`modificationsFor_build`); `resolve_offsets` has a normal
form (`resolveOffsets_ok_iff`): every scope has an offset, the requests are sorted, and the answer is refused
iff two neighbours in that order overlap.
-/
namespace GtirbVerif.Store

theorem bcLookup_bcAppend (b k : Nat) (m : Mod) (bc : List (Nat × List Mod)) :
    bcLookup k (bcAppend b m bc) = if b = k then bcLookup k bc ++ [m] else bcLookup k bc := by
  induction bc with
  | nil => by_cases h : b = k <;> simp [bcAppend, bcLookup, h]
  | cons x xs ih =>
    obtain ⟨k', v⟩ := x
    -- append and lookup both stop at the first entry of their key: the entry that grows is the one `b` is answered with
    by_cases h1 : k' = b
    · subst h1
      by_cases h2 : k' = k <;> simp [bcAppend, bcLookup, h2]
    · by_cases h2 : k' = k
      · subst h2; simp [bcAppend, bcLookup, h1, Ne.symm h1]
      · simp [bcAppend, bcLookup, h1, h2, ih]

theorem knownTargets_matches (env : BlockEnv) (sc : Scope) (ts : List Nat) (h : knownTargets sc = some ts) :
    ∃ b, ts = [b] ∧ blockMatches env sc = (b == env.id) := by
  cases sc with
  | allBlocks p e => simp [knownTargets] at h
  | allFunctions en p fs => simp [knownTargets] at h
  | single b p => simp only [knownTargets, Option.some.injEq] at h; exact ⟨b, h.symm, rfl⟩
  | specific b o r => simp only [knownTargets, Option.some.injEq] at h; exact ⟨b, h.symm, rfl⟩

/-- whether `add` files the modification under its target blocks -/
abbrev keyed (m : Mod) : Bool := (knownTargets m.scope).isSome

theorem foldl_add_modificationsFor (env : BlockEnv) : ∀ (ms : List Mod) (s : Store),
    (ms.foldl Store.add s).modificationsFor env =
      (bcLookup env.id s.blockChanges ++ (ms.filter keyed).filter (fun m => blockMatches env m.scope)) ++
      (s.scopeChanges ++ ms.filter (fun m => !keyed m)).filter (fun m => blockMatches env m.scope) := by
  intro ms
  induction ms with
  | nil => intro s; simp [Store.modificationsFor]
  | cons m r ih =>
    intro s
    -- by the hypothesis at the store `s.add m`, what is left is the effect of one `add` on the two tables
    rw [List.foldl_cons, ih]
    unfold Store.add
    cases hk : knownTargets m.scope with
    | none => simp [keyed, hk]
    | some ts =>
      -- filed under its one target `b`, which is the block iff the scope matches it
      obtain ⟨b, rfl, hb⟩ := knownTargets_matches env m.scope ts hk
      by_cases h : b = env.id <;> simp [keyed, hk, hb, bcLookup_bcAppend, h]

theorem modificationsFor_build (ms : List Mod) (env : BlockEnv) :
    (build ms).modificationsFor env =
      (ms.filter keyed ++ ms.filter (fun m => !keyed m)).filter (fun m => blockMatches env m.scope) := by
  rw [build, foldl_add_modificationsFor]
  simp only [bcLookup, List.filter_append, List.nil_append]

/-- the offset `resolve_offsets` uses for a modification (0 where the scope has none: only used under `ok`) -/
def offOf (env : BlockEnv) (hd : Bool) (m : Mod) : Nat :=
  match firstOffset env hd m.scope with
  | .ok o => o
  | .error _ => 0

theorem offOf_ok {env : BlockEnv} {hd : Bool} {m : Mod} {o : Nat} (h : firstOffset env hd m.scope = .ok o) :
    offOf env hd m = o := by
  simp only [offOf, h]

theorem offsetsOf_ok_iff (env : BlockEnv) (hd : Bool) : ∀ (ms : List Mod) (l : List (Mod × Nat)),
    offsetsOf env hd ms = .ok l ↔
      (∀ m ∈ ms, firstOffset env hd m.scope = .ok (offOf env hd m)) ∧ l = ms.map (fun m => (m, offOf env hd m)) := by
  intro ms
  induction ms with
  | nil => intro l; simp [offsetsOf, eq_comm]
  | cons m r ih =>
    intro l
    simp only [offsetsOf, List.forall_mem_cons, List.map_cons]
    cases hm : firstOffset env hd m.scope with
    | error e => simp
    | ok o =>
      rw [offOf_ok hm]
      cases hr : offsetsOf env hd r with
      | error e =>
        -- the rest has no answer: by the induction hypothesis some scope in it has no offset
        refine ⟨nofun, fun ⟨⟨_, hA⟩, _⟩ => ?_⟩
        have := (ih _).mpr ⟨hA, rfl⟩
        rw [hr] at this; cases this
      | ok l' =>
        obtain ⟨hA, rfl⟩ := (ih l').mp hr
        simp only [Except.ok.injEq, true_and, eq_comm (a := l)]
        exact (and_iff_right hA).symm

/-- the order of application: by offset; at one offset insertions before the replacement or deletion;
then by registration id -/
def Before (a b : Mod × Nat) : Prop :=
  a.2 < b.2 ∨ (a.2 = b.2 ∧
    ((replLen a.1.scope = 0 ∧ replLen b.1.scope ≠ 0) ∨
     ((replLen a.1.scope = 0 ↔ replLen b.1.scope = 0) ∧ a.1.id ≤ b.1.id)))

theorem keyLe_iff (a b : Mod × Nat) : keyLe (sortKey a) (sortKey b) = true ↔ Before a b := by
  unfold keyLe sortKey Before
  simp only [Bool.or_eq_true, decide_eq_true_eq, Bool.and_eq_true, beq_iff_eq, bne_iff_ne, ne_eq]
  by_cases ha : replLen a.1.scope = 0 <;> by_cases hb : replLen b.1.scope = 0 <;> simp [ha, hb] <;> omega

/-! That the order is total, transitive and antisymmetric is said of `keyLe` on plain keys, where it is linear
arithmetic; on `Before` each fact would repeat the case split on `replLen` that `keyLe_iff` makes once. -/

theorem keyLe_total (a b : Nat × Nat × Nat) : (keyLe a b || keyLe b a) = true := by
  simp only [keyLe, Bool.or_eq_true, decide_eq_true_eq, Bool.and_eq_true, beq_iff_eq]; omega

theorem keyLe_trans (a b c : Nat × Nat × Nat) : keyLe a b = true → keyLe b c = true → keyLe a c = true := by
  simp only [keyLe, Bool.or_eq_true, decide_eq_true_eq, Bool.and_eq_true, beq_iff_eq]; omega

theorem keyLe_antisymm_id (a b : Nat × Nat × Nat) : keyLe a b = true → keyLe b a = true → a.2.2 = b.2.2 := by
  simp only [keyLe, Bool.or_eq_true, decide_eq_true_eq, Bool.and_eq_true, beq_iff_eq]; omega

/-- the test of `insertK` -/
abbrev leK (a b : Mod × Nat) : Bool := keyLe (sortKey a) (sortKey b)

theorem sortK_eq_sort (l : List (Mod × Nat)) : sortK l = Sorting.sort leK l :=
  congrArg (l.foldr · []) (Sorting.insert_unique leK insertK (fun _ => rfl) fun _ _ _ => rfl)

theorem sortK_perm (l : List (Mod × Nat)) : (sortK l).Perm l :=
  sortK_eq_sort l ▸ Sorting.sort_perm _ l

theorem sortK_sorted (l : List (Mod × Nat)) : (sortK l).Pairwise Before :=
  sortK_eq_sort l ▸ (Sorting.sort_sorted (le := leK) (fun _ _ => keyLe_total _ _) (fun _ _ _ => keyLe_trans _ _ _) l).imp
    (keyLe_iff _ _).mp

theorem sortK_perm_eq {l1 l2 : List (Mod × Nat)} (hp : l1.Perm l2)
    (hd : ∀ a ∈ l1, ∀ b ∈ l1, a.1.id = b.1.id → a = b) : sortK l1 = sortK l2 := by
  rw [sortK_eq_sort, sortK_eq_sort]
  exact Sorting.sort_eq_of_perm (le := leK) (fun _ _ => keyLe_total _ _) (fun _ _ _ => keyLe_trans _ _ _) hp
    fun a ha b hb hab hba => hd a ha b hb (keyLe_antisymm_id _ _ hab hba)

/-- `a` ends where `b` begins, or earlier -/
def Clear (a b : Mod × Nat) : Prop := a.2 + replLen a.1.scope ≤ b.2

/-- the check compares neighbours only; that is enough because it also forces the offsets to increase -/
theorem checkOverlap_iff : ∀ (l : List (Mod × Nat)) (e : Nat),
    checkOverlap e l = true ↔ l.Pairwise Clear ∧ ∀ x ∈ l, e ≤ x.2 := by
  intro l
  induction l with
  | nil => intro e; simp [checkOverlap]
  | cons x r ih =>
    intro e
    obtain ⟨m, off⟩ := x
    simp only [checkOverlap, List.pairwise_cons, List.forall_mem_cons, Clear]
    split
    · simp only [Bool.false_eq_true, false_iff]; omega
    · rw [ih]
      constructor
      · rintro ⟨h1, h2⟩
        -- what lies behind the first request begins at or behind its end, so at or behind `e`
        exact ⟨⟨h2, h1⟩, by omega, fun y hy => Nat.le_trans (by omega) (h2 y hy)⟩
      · rintro ⟨⟨h2, h1⟩, _⟩
        exact ⟨h1, h2⟩

theorem checkOverlap_zero (l : List (Mod × Nat)) : checkOverlap 0 l = true ↔ l.Pairwise Clear :=
  (checkOverlap_iff l 0).trans (and_iff_left fun _ _ => Nat.zero_le _)

/-- `haveDis` of `resolveOffsets`: whether instructions are decoded for this call -/
def haveDisFor (env : BlockEnv) (mods : List Mod) : Bool := env.isCode && mods.any (fun m => needsDisassembly m.scope)

theorem resolveOffsets_of_offsets {env : BlockEnv} {mods : List Mod} {l : List (Mod × Nat)}
    (hl : offsetsOf env (haveDisFor env mods) mods = .ok l) :
    resolveOffsets env mods =
      if checkOverlap 0 (sortK l) then .ok (sortK l) else .error (.assertion "modifications overlap") := by
  unfold haveDisFor at hl
  simp only [resolveOffsets, hl]

theorem resolveOffsets_ok_iff {env : BlockEnv} {mods : List Mod} {r : List (Mod × Nat)} :
    resolveOffsets env mods = .ok r ↔
      ∃ l, offsetsOf env (haveDisFor env mods) mods = .ok l ∧ (sortK l).Pairwise Clear ∧ r = sortK l := by
  cases hl : offsetsOf env (haveDisFor env mods) mods with
  | error e => unfold haveDisFor at hl; simp [resolveOffsets, hl]
  | ok l =>
    rw [resolveOffsets_of_offsets hl]
    simp only [Except.ok.injEq, exists_eq_left', ← checkOverlap_zero]
    cases checkOverlap 0 (sortK l) <;> simp [eq_comm]

theorem haveDisFor_perm {env : BlockEnv} {m1 m2 : List Mod} (hp : m1.Perm m2) : haveDisFor env m1 = haveDisFor env m2 := by
  unfold haveDisFor
  rw [hp.any_eq]

end GtirbVerif.Store
