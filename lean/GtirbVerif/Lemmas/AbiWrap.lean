import GtirbVerif.Model.Abi.Prologue

/-! Transparency of nested save/restore wrappers on the abstract machine. -/
namespace GtirbVerif.Abi

/-- `g` is a transparent transformer: it terminates without reading a foreign
slot, restores `sp`, leaves every cell at or above its entry `sp` alone,
restores the registers in `R` (and the flags when `F`), and every cell it
writes lies entirely below `entry sp - k`. -/
def Good (W : Int) (g : M → Option M) (R : List String) (F : Bool) (k : Int) : Prop :=
  ∀ σ, ∃ σ', g σ = some σ' ∧ σ'.sp = σ.sp ∧ (∀ x, σ.sp ≤ x → σ'.mem x = σ.mem x) ∧
    (∀ r ∈ R, σ'.reg r = σ.reg r) ∧ (F = true → σ'.flags = σ.flags) ∧
    (∃ new, σ'.wr = new ++ σ.wr ∧ ∀ a ∈ new, a + W ≤ σ.sp - k)

def wrap (W : Int) (pre post : List Instr) (g : M → Option M) : M → Option M :=
  fun σ => (run W pre σ).bind (fun σ1 => (g σ1).bind (run W post))

theorem run_append (W : Int) (a b : List Instr) (σ : M) :
    run W (a ++ b) σ = (run W a σ).bind (run W b) := by
  induction a generalizing σ with
  | nil => rfl
  | cons i is ih =>
    simp only [List.cons_append, run]
    cases step W i σ with
    | none => rfl
    | some σ' => exact ih σ'

/-- a prologue and the reversed epilogue split at matching places: a nest of wrappers -/
theorem wrap_append (W : Int) (p1 p2 e2 e1 : List Instr) (g : M → Option M) :
    wrap W (p1 ++ p2) (e2 ++ e1) g = wrap W p1 e1 (wrap W p2 e2 g) := by
  funext σ
  simp only [wrap, run_append, funext (run_append W e2 e1), Option.bind_assoc]

theorem wrap_nil (W : Int) (g : M → Option M) : wrap W [] [] g = g := by
  funext σ
  simp [wrap, run]

variable {W : Int} {g : M → Option M} {R : List String} {F : Bool} {k : Int}

theorem Good.mono {R' : List String} (h : Good W g R F k) (hR : ∀ r ∈ R', r ∈ R) :
    Good W g R' F k := by
  intro σ
  obtain ⟨σ', h1, h2, h3, h4, h5⟩ := h σ
  exact ⟨σ', h1, h2, h3, fun r hr => h4 r (hR r hr), h5⟩

theorem Good.flags {F' : Bool} (h : Good W g R F k) (hF : F' = true → F = true) :
    Good W g R F' k := by
  intro σ
  obtain ⟨σ', h1, h2, h3, h4, h5, h6⟩ := h σ
  exact ⟨σ', h1, h2, h3, h4, fun e => h5 (hF e), h6⟩

theorem setReg_restores {f f' : String → Int} (h : ∀ x ∈ R, f' x = f x) (r : String) :
    ∀ x ∈ r :: R, setReg f' r (f r) x = f x := by
  intro x hx
  by_cases e : x = r
  · simp [setReg, e]
  · simpa [setReg, e] using h x ((List.mem_cons.mp hx).resolve_left e)

/-- The memory fact the single-cell layers (`push`, `pushf`, `str`, the realign snippet) rest on:
a value stored in a fresh cell below `sp` survives any transparent `g`.  (`rg`, `fl`: the pair may
have changed registers and flags before the store.)  The two-cell `stp` and the MIPS32 frame slot
argue in the same way from `Good` / `GoodT` directly. -/
theorem Good.after_store (h : Good W g R F 0) (hW : 0 < W) {s : Int} (hs : W ≤ s) (σ : M)
    (rg : String → Int) (fl v : Int) :
    ∃ σ', g ({ σ with reg := rg, flags := fl, sp := σ.sp - s }.write W (σ.sp - s) v) = some σ' ∧
      σ'.sp + s = σ.sp ∧ σ'.mem σ'.sp = some v ∧ (∀ x, σ.sp ≤ x → σ'.mem x = σ.mem x) ∧
      (∀ r ∈ R, σ'.reg r = rg r) ∧ (F = true → σ'.flags = fl) ∧
      ∃ new, σ'.wr = new ++ σ.wr ∧ ∀ a ∈ new, a + W ≤ σ.sp := by
  obtain ⟨σ', h1, h2, h3, h4, h5, new, h6, h7⟩ :=
    h ({ σ with reg := rg, flags := fl, sp := σ.sp - s }.write W (σ.sp - s) v)
  simp only [M.write] at h2 h3 h7
  refine ⟨σ', h1, by omega, by rw [h2, h3 _ (Int.le_refl _), if_pos rfl], fun x hx => ?_, h4, h5,
    new ++ [σ.sp - s], by simp [h6, M.write], fun a ha => ?_⟩
  · rw [h3 x (by omega), if_neg (by omega), if_neg (by omega)]
  · rcases List.mem_append.mp ha with ha | ha
    · have := h7 a ha; omega
    · simp only [List.mem_singleton] at ha; omega

theorem good_push (hW : 0 < W) (h : Good W g R F 0) (r : String) :
    Good W (wrap W [.push r] [.pop r] g) (r :: R) F 0 := by
  intro σ
  obtain ⟨σ', h1, h2, hm, h3, h4, h5, h6⟩ :=
    h.after_store hW (Int.le_refl W) σ σ.reg σ.flags (σ.reg r)
  refine ⟨{ σ' with reg := setReg σ'.reg r (σ.reg r), sp := σ'.sp + W }, ?_, h2, h3,
    setReg_restores h4 r, h5, by simpa using h6⟩
  simp only [wrap, run, step, Option.bind_some, h1, hm]

theorem good_pushf (hW : 0 < W) (h : Good W g R F 0) :
    Good W (wrap W [.pushf] [.popf] g) R true 0 := by
  intro σ
  obtain ⟨σ', h1, h2, hm, h3, h4, _, h6⟩ :=
    h.after_store hW (Int.le_refl W) σ σ.reg σ.flags σ.flags
  refine ⟨{ σ' with flags := σ.flags, sp := σ'.sp + W }, ?_, h2, h3, h4, fun _ => rfl,
    by simpa using h6⟩
  simp only [wrap, run, step, Option.bind_some, h1, hm]

theorem good_lea (d : Int) (hd : 0 ≤ d) (h : Good W g R F k) :
    Good W (wrap W [.lea (-d)] [.lea d] g) R F (k + d) := by
  intro σ
  obtain ⟨σ', h1, h2, h3, h4, h5, new, h6, h7⟩ := h { σ with sp := σ.sp + -d }
  simp only at h2 h3 h7
  refine ⟨{ σ' with sp := σ'.sp + d }, ?_, ?_, ?_, h4, h5, new, h6, ?_⟩
  · simp only [wrap, run, step, Option.bind_some, h1]
  · simp only [h2]; omega
  · intro x hx; exact h3 x (by omega)
  · intro a ha; have := h7 a ha; omega

theorem good_pushes (hW : 0 < W) (h : Good W g R F 0) : ∀ regs : List String,
    Good W (wrap W (regs.map Instr.push) (regs.reverse.map Instr.pop) g) (regs ++ R) F 0
  | [] => by simpa [wrap_nil] using h
  | r :: rs => by
    have := good_push hW (good_pushes hW h rs) r
    rw [← wrap_append] at this
    simpa using this

/-- the middle of the `align_stack` snippet: `sp` is kept in `ax` while the code
inside runs on an aligned stack, so the code inside has to preserve `ax` (the
innermost `push ax … pop ax` sees to that).  The `push ax` here is never read
back: it keeps the two cells below the aligned address a multiple of 16. -/
theorem good_realign (hW : 0 < W) (ax : String) (h : Good W g (ax :: R) F 0) :
    Good W (wrap W [.movSpTo ax, .lea (-0x80), .andSp 0x10, .push ax] [.movToSp ax] g)
      (R.filter (· != ax)) false 0 := by
  intro σ
  generalize hA : (σ.sp + -0x80) - (σ.sp + -0x80) % 0x10 = A
  obtain ⟨σ', h1, _, _, h3, h4, _, h6⟩ :=
    h.after_store hW (Int.le_refl W) { σ with sp := A } (setReg σ.reg ax σ.sp) (andFlags A) σ.sp
  refine ⟨{ σ' with sp := σ.sp }, ?_, rfl, fun x hx => h3 x (by simp only; omega), ?_, nofun, ?_⟩
  · simp only [wrap, run, step, setReg, ↓reduceIte, hA, Option.bind_some, h1,
      h4 ax List.mem_cons_self]
  · intro r hr
    simp only [List.mem_filter, bne_iff_ne, ne_eq] at hr
    simp [h4 r (List.mem_cons_of_mem _ hr.1), setReg, hr.2]
  · obtain ⟨new, e, hb⟩ := h6
    exact ⟨new, e, fun a ha => by have := hb a ha; simp only at this; omega⟩

theorem good_align (hW : 0 < W) (h : Good W g R F 0) (ax : String) :
    Good W (wrap W (alignPre ax) (alignPost ax) g) (ax :: R.filter (· != ax)) false 0 := by
  have := good_push hW (good_realign hW ax (good_push hW h ax)) ax
  rwa [← wrap_append, ← wrap_append] at this

/-- at the inner code's entry the stack pointer is a multiple of 16 minus two cells -/
theorem align_entry_sp (W : Int) (ax : String) (σ : M) :
    ∃ σ1, run W (alignPre ax) σ = some σ1 ∧ (σ1.sp + W + W) % 16 = 0 :=
  ⟨_, rfl, by simp only [M.write]; omega⟩

/-- abi.py saves with `stp r1, r2, [sp, #-16]!` and, for a last odd register or the flags,
`str r, [sp, #-16]!`: `sp` moves by 16 in both (AArch64 keeps `sp` 16-byte aligned), the cells are
8 bytes wide, so `str` leaves the upper half of its slot unused. -/
theorem good_stp (h : Good 8 g R F 0) (r1 r2 : String) :
    Good 8 (wrap 8 [.stp r1 r2] [.ldp r1 r2] g) (r1 :: r2 :: R) F 0 := by
  intro σ
  obtain ⟨σ', h1, h2, h3, h4, h5, new, h6, h7⟩ :=
    h (({ σ with sp := σ.sp - 16 }.write 8 (σ.sp - 16) (σ.reg r1)).write 8 (σ.sp - 8) (σ.reg r2))
  simp only [M.write] at h2 h3 h4 h7
  have hm1 : σ'.mem (σ.sp - 16) = some (σ.reg r1) := by
    rw [h3 (σ.sp - 16) (by omega), if_neg (by omega), if_neg (by omega), if_pos rfl]
  have hm2 : σ'.mem (σ.sp - 16 + 8) = some (σ.reg r2) := by
    rw [h3 (σ.sp - 16 + 8) (by omega), if_pos (by omega)]
  refine ⟨{ σ' with reg := setReg (setReg σ'.reg r1 (σ.reg r1)) r2 (σ.reg r2), sp := σ'.sp + 16 },
    ?_, by simp only [h2]; omega, fun x hx => ?_, fun r hr => ?_, h5,
    new ++ [σ.sp - 8, σ.sp - 16], by simp [h6, M.write], fun a ha => ?_⟩
  · simp only [wrap, run, step, Option.bind_some, h1, h2, hm1, hm2]
  · rw [h3 x (by omega), if_neg (by omega), if_neg (by omega), if_neg (by omega), if_neg (by omega)]
  · by_cases e : r = r2
    · simp [setReg, e]
    · simpa [setReg, e] using setReg_restores h4 r1 r (by simpa [e] using hr)
  · rcases List.mem_append.mp ha with ha | ha
    · have := h7 a ha; omega
    · simp only [List.mem_cons, List.not_mem_nil, or_false] at ha
      rcases ha with rfl | rfl <;> omega

theorem good_strPre (h : Good 8 g R F 0) (r : String) :
    Good 8 (wrap 8 [.strPre r] [.ldrPost r] g) (r :: R) F 0 := by
  intro σ
  obtain ⟨σ', h1, h2, hm, h3, h4, h5, h6⟩ :=
    h.after_store (by omega) (by omega : (8 : Int) ≤ 16) σ σ.reg σ.flags (σ.reg r)
  refine ⟨{ σ' with reg := setReg σ'.reg r (σ.reg r), sp := σ'.sp + 16 }, ?_, h2, h3,
    setReg_restores h4 r, h5, by simpa using h6⟩
  simp only [wrap, run, step, Option.bind_some, h1, hm]

theorem good_mrs (r : String) (h : Good W g (r :: R) F k) :
    Good W (wrap W [.mrs r] [.msr r] g) (R.filter (· != r)) true k := by
  intro σ
  obtain ⟨σ', h1, h2, h3, h4, _, h6⟩ := h { σ with reg := setReg σ.reg r σ.flags }
  refine ⟨{ σ' with flags := σ.flags }, ?_, h2, h3, fun r' hr' => ?_, fun _ => rfl, h6⟩
  · simp [wrap, run, step, h1, h4 r List.mem_cons_self, setReg]
  · simp only [List.mem_filter, bne_iff_ne, ne_eq] at hr'
    simp [h4 r' (List.mem_cons_of_mem _ hr'.1), setReg, hr'.2]

theorem good_flags_arm (h : Good 8 g R F 0) (r : String) :
    Good 8 (wrap 8 [.mrs r, .strPre r] [.ldrPost r, .msr r] g) (R.filter (· != r)) true 0 :=
  wrap_append 8 [.mrs r] [.strPre r] [.ldrPost r] [.msr r] g ▸ good_mrs r (good_strPre h r)

/-- like `Good`, but the transformer may also use the cells in `[sp + lo, sp + hi)`: MIPS32 saves
registers with `sw`/`lw` in a frame above the lowered `$sp`, not by pushes -/
def GoodT (W : Int) (g : M → Option M) (R : List String) (F : Bool) (lo hi : Int) : Prop :=
  ∀ σ, ∃ σ', g σ = some σ' ∧ σ'.sp = σ.sp ∧
    (∀ x, σ.sp ≤ x → x + W ≤ σ.sp + lo ∨ σ.sp + hi ≤ x → σ'.mem x = σ.mem x) ∧
    (∀ r ∈ R, σ'.reg r = σ.reg r) ∧ (F = true → σ'.flags = σ.flags) ∧
    (∃ new, σ'.wr = new ++ σ.wr ∧ ∀ a ∈ new, a + W ≤ σ.sp ∨ σ.sp + lo ≤ a ∧ a + W ≤ σ.sp + hi)

theorem goodT_of_good (h : Good W g R F 0) (lo hi : Int) : GoodT W g R F lo hi := by
  intro σ
  obtain ⟨σ', h1, h2, h3, h4, h5, new, h6, h7⟩ := h σ
  exact ⟨σ', h1, h2, fun x hx _ => h3 x hx, h4, h5, new, h6, fun a ha => Or.inl (by
    have := h7 a ha; omega)⟩

theorem goodT_sw (hW : 0 < W) {lo hi : Int} (h : GoodT W g R F lo hi) (r : String) (off : Int)
    (hoff : 0 ≤ off) (hlo : off + W ≤ lo) (hhi : lo ≤ hi) :
    GoodT W (wrap W [.sw r off] [.lw r off] g) (r :: R) F off hi := by
  intro σ
  obtain ⟨σ', h1, h2, h3, h4, h5, new, h6, h7⟩ := h (σ.write W (σ.sp + off) (σ.reg r))
  simp only [M.write] at h2 h3 h7
  have hm : σ'.mem (σ.sp + off) = some (σ.reg r) := by
    rw [h3 (σ.sp + off) (by omega) (by omega), if_pos rfl]
  refine ⟨{ σ' with reg := setReg σ'.reg r (σ.reg r) }, ?_, h2, fun x hx hT => ?_,
    setReg_restores h4 r, h5, new ++ [σ.sp + off], by simp [h6, M.write], fun a ha => ?_⟩
  · simp only [wrap, run, step, Option.bind_some, h1, h2, hm]
  · rw [h3 x hx (by omega), if_neg (by omega), if_neg (by omega)]
  · rcases List.mem_append.mp ha with ha | ha
    · have := h7 a ha; omega
    · simp only [List.mem_singleton] at ha; omega

theorem good_addiu {lo hi : Int} (h : GoodT W g R F lo hi) (n : Int) (hhi : hi ≤ n) (hn : 0 ≤ n) :
    Good W (wrap W [.addiuSp (-n)] [.addiuSp n] g) R F 0 := by
  intro σ
  obtain ⟨σ', h1, h2, h3, h4, h5, new, h6, h7⟩ := h { σ with sp := σ.sp + -n }
  simp only at h2 h3 h7
  refine ⟨{ σ' with sp := σ'.sp + n }, ?_, by simp only [h2]; omega,
    fun x hx => h3 x (by omega) (by omega), h4, h5, new, h6, fun a ha => ?_⟩
  · simp only [wrap, run, step, Option.bind_some, h1]
  · have := h7 a ha; omega

end GtirbVerif.Abi
