import GtirbVerif.Lemmas.Encodable

/-! The codec of `Lemmas/Encodable` once more, with operands that may be expressions: the model has
one copy of `_OpcodeEncodable` for operations and one for CFI instructions. -/
namespace GtirbVerif.Dwarf

/-- every operation inside every expression operand belongs to the table -/
def ArgsIn (et : Table) (args : List Arg) : Prop :=
  ∀ a ∈ args, ∀ ops, a = Arg.expr ops → ∀ o ∈ ops, o.cls ∈ et

theorem validateArg_int {e : Enc} {p : Option Nat} {v : Int} :
    validateArg e p (.int v) = .ok () ↔ e ≠ .expr ∧ validateInt e p v = true := by
  by_cases he : e = .expr <;> by_cases hv : validateInt e p v = true <;>
    simp [validateArg, he, hv]

theorem validateArg_expr {e : Enc} {p : Option Nat} {ops : List OpObj} :
    validateArg e p (.expr ops) = .ok () ↔ e = .expr := by
  by_cases he : e = .expr <;> simp [validateArg, he]

theorem decArg_encArg {et : Table} (hT : TableOK et = true)
    {e : Enc} {bo : ByteOrder} {ptr : Nat} {a : Arg} {b : List Nat} (rest : List Nat)
    (hs : e.notFused = true) (hok : e.ok = true)
    (hin : ∀ ops, a = Arg.expr ops → ∀ o ∈ ops, o.cls ∈ et)
    (hv : validateArg e (some ptr) a = .ok ()) (h : encArg bo ptr e a = .ok b) :
    decArg et bo ptr e (b ++ rest) = .ok (a, b.length, rest) := by
  cases a with
  | int v =>
    obtain ⟨hne, hve⟩ := validateArg_int.mp hv
    cases hb1 : encInt e bo ptr v with
    | none => simp [encArg, hb1] at h
    | some b1 =>
      obtain rfl : b1 = b := by simpa [encArg, hb1] using h
      simp only [decArg, hne, ↓reduceIte, decInt_encInt rest hs hok hve hb1, bind, Except.bind]
  | expr ops =>
    cases validateArg_expr.mp hv
    simp only [encArg, ↓reduceIte] at h
    simp only [decArg, ↓reduceIte, decodeExpr_encodeExpr hT bo ptr ops (hin ops rfl) b rest h,
      bind, Except.bind]

theorem validateInstArgs_nil {p : Option Nat} {as : List Arg} :
    validateInstArgs p [] as = .ok () ↔ as = [] := by
  cases as <;> simp [validateInstArgs]

theorem validateInstArgs_cons {p : Option Nat} {e : Enc} {es : List Enc} {args : List Arg} :
    validateInstArgs p (e :: es) args = .ok () ↔
      ∃ a as, args = a :: as ∧ validateArg e p a = .ok () ∧
        validateInstArgs p es as = .ok () := by
  cases args with
  | nil => simp [validateInstArgs]
  | cons a as =>
    simp only [validateInstArgs, Except.bind_eq_ok, List.cons.injEq]
    exact ⟨fun ⟨_, ha, h⟩ => ⟨a, as, ⟨rfl, rfl⟩, ha, h⟩,
      fun ⟨_, _, ⟨rfl, rfl⟩, ha, h⟩ => ⟨(), ha, h⟩⟩

theorem validateArg_addOp {k : Nat} {p : Option Nat} {a : Arg} :
    validateArg (.addOp k) p a = .ok () ↔ ∃ v, a = .int v ∧ 0 ≤ v ∧ v < (k : Int) := by
  cases a with
  | expr ops => simp [validateArg_expr]
  | int v => simp [validateArg_int, validateInt]

theorem encInstFields_cons {bo : ByteOrder} {ptr : Nat} {e : Enc} {es : List Enc} {a : Arg}
    {as : List Arg} {b : List Nat} :
    encInstFields bo ptr (e :: es) (a :: as) = .ok b ↔
      ∃ b1 r, encArg bo ptr e a = .ok b1 ∧ encInstFields bo ptr es as = .ok r ∧
        b1 ++ r = b := by
  simp [encInstFields, Except.bind_eq_ok]

theorem encodeInst_eq_ok {bo : ByteOrder} {ptr : Nat} {i : InstObj} {bs : List Nat} :
    encodeInst bo ptr i = .ok bs ↔ validateInstArgs (some ptr) i.cls.encs i.args = .ok () ∧
      ∃ r, encInstFields bo ptr i.cls.encs i.args = .ok r ∧
        firstByte i.cls (i.args.head?.bind Arg.int?) :: r = bs := by
  unfold encodeInst
  cases validateInstArgs (some ptr) i.cls.encs i.args <;> simp [Except.bind_eq_ok]

theorem decInstFields_encInstFields {et : Table} (hT : TableOK et = true)
    {bo : ByteOrder} {ptr : Nat} :
    ∀ (es : List Enc) (as : List Arg) (b rest : List Nat),
      (∀ e ∈ es, e.notFused = true ∧ e.ok = true) → ArgsIn et as →
      validateInstArgs (some ptr) es as = .ok () →
      encInstFields bo ptr es as = .ok b →
      decInstFields et bo ptr es (b ++ rest) = .ok (as, b.length, rest)
  | [], _, b, rest, _, _, hv, h => by
    cases validateInstArgs_nil.mp hv; cases h; rfl
  | e :: es, _, _, rest, hall, hin, hv, h => by
    obtain ⟨a, as, rfl, hva, hv⟩ := validateInstArgs_cons.mp hv
    obtain ⟨b1, r, hb1, hr, rfl⟩ := encInstFields_cons.mp h
    obtain ⟨he, hes⟩ := List.forall_mem_cons.mp hall
    obtain ⟨ha, has⟩ := List.forall_mem_cons.mp hin
    have ih := decInstFields_encInstFields hT es as r rest hes has hv hr
    simp [decInstFields, decArg_encArg hT (r ++ rest) he.1 he.2 ha hva hb1, ih, bind, Except.bind]

theorem decodeInst_encodeInst {et ct : Table} (hTe : TableOK et = true)
    (hTc : TableOK ct = true) (bo : ByteOrder) (ptr : Nat) (i : InstObj) (hi : i.cls ∈ ct)
    (hin : ArgsIn et i.args) (bs rest : List Nat) (h : encodeInst bo ptr i = .ok bs) :
    decodeInst et ct bo ptr (bs ++ rest) = .ok (i, bs.length, rest) := by
  obtain ⟨c, args⟩ := i
  obtain ⟨hv, r, hr, rfl⟩ := encodeInst_eq_ok.mp h
  have hok := List.all_eq_true.mp (Bool.and_eq_true_iff.mp hTc).1 c hi
  cases hfb : c.fusedBound with
  | none =>
    have hl := lookup_firstByte hTc hi (first := args.head?.bind Arg.int?) (by simp [hfb])
    have hdec := decInstFields_encInstFields hTe _ _ r rest (ClassDesc.ok_all hok hfb) hin hv hr
    simp [decodeInst, readOpcode, hl, hfb, hdec, bind, Except.bind, Nat.add_comm]
  | some k =>
    obtain ⟨es, hes⟩ := ClassDesc.fusedBound_eq_some.mp hfb
    rw [hes] at hv hr
    obtain ⟨a, as, rfl, hva, hv'⟩ := validateInstArgs_cons.mp hv
    obtain ⟨_, r', hb1, hr', rfl⟩ := encInstFields_cons.mp hr
    obtain ⟨v, rfl, hve⟩ := validateArg_addOp.mp hva
    cases hb1
    have hl := lookup_firstByte hTc hi (first := some v) (by simpa [hfb] using hve)
    have hdec := decInstFields_encInstFields hTe _ _ r' rest (ClassDesc.ok_tail hok hes)
      (List.forall_mem_cons.mp hin).2 hv' hr'
    simp [decodeInst, readOpcode, Arg.int?, hl, hfb, hes, hdec, bind, Except.bind, Nat.add_comm,
      firstByte_sub hfb hve.1]

theorem encodeInst_length_pos {bo ptr i bs} (h : encodeInst bo ptr i = .ok bs) :
    0 < bs.length := by
  obtain ⟨-, r, -, rfl⟩ := encodeInst_eq_ok.mp h
  simp

/-- concatenation of the encodings of a list of instructions -/
def encodeInsts (bo : ByteOrder) (ptr : Nat) : List InstObj → Except Err (List Nat)
  | [] => .ok []
  | i :: is => do
    let b ← encodeInst bo ptr i
    let r ← encodeInsts bo ptr is
    .ok (b ++ r)

theorem encodeInsts_cons {bo : ByteOrder} {ptr : Nat} {i : InstObj} {is : List InstObj}
    {e : List Nat} :
    encodeInsts bo ptr (i :: is) = .ok e ↔
      ∃ b r, encodeInst bo ptr i = .ok b ∧ encodeInsts bo ptr is = .ok r ∧ b ++ r = e := by
  simp [encodeInsts, Except.bind_eq_ok]

theorem parseInstsLoop_encodeInsts {et ct : Table} (hTe : TableOK et = true)
    (hTc : TableOK ct = true) (bo : ByteOrder) (ptr : Nat) :
    ∀ (is : List InstObj) (e : List Nat) (f off len : Nat),
      (∀ i ∈ is, i.cls ∈ ct ∧ ArgsIn et i.args) → encodeInsts bo ptr is = .ok e →
      e.length ≤ f → off + e.length = len →
      parseInstsLoop et ct bo ptr f off len e = .ok is
  | [], e, f, off, len, _, h, _, hlen => by
    cases h
    simp only [List.length_nil, Nat.add_zero] at hlen; subst hlen
    cases f <;> simp [parseInstsLoop]
  | i :: is, e, f, off, len, hin, h, hf, hlen => by
    obtain ⟨b, r, hb, hr, rfl⟩ := encodeInsts_cons.mp h
    have hpos := encodeInst_length_pos hb
    simp only [List.length_append] at hlen hf
    cases f with
    | zero => omega
    | succ f =>
      have hlt : off < len := by omega
      obtain ⟨hi, his⟩ := List.forall_mem_cons.mp hin
      have hdec := decodeInst_encodeInst hTe hTc bo ptr i hi.1 hi.2 b r hb
      have ih := parseInstsLoop_encodeInsts hTe hTc bo ptr is r f (off + b.length) len his hr
        (by omega) (by omega)
      simp only [parseInstsLoop, hlt, ↓reduceIte, hdec, ih, bind, Except.bind]

theorem parseInsts_encodeInsts {et ct : Table} (hTe : TableOK et = true)
    (hTc : TableOK ct = true) (bo : ByteOrder) (ptr : Nat)
    (is : List InstObj) (hin : ∀ i ∈ is, i.cls ∈ ct ∧ ArgsIn et i.args) (e : List Nat)
    (h : encodeInsts bo ptr is = .ok e) :
    parseInsts et ct bo ptr e = .ok is := by
  unfold parseInsts
  exact parseInstsLoop_encodeInsts hTe hTc bo ptr is e e.length 0 e.length hin h
    (Nat.le_refl _) (Nat.zero_add _)

end GtirbVerif.Dwarf
