import GtirbVerif.Lemmas.AsmStep
/-!
Frame lemma for the streamer: labels that an event does not mention may be added to the table of
local symbols without changing what the event does.  This is what makes assembling a text in
chunks equal to assembling it whole.
-/
namespace GtirbVerif.Asm

theorem any_append_notin {l ex : List (String × Nat)} {n : String} (h : n ∉ namesOf ex) :
    (l ++ ex).any (·.1 == n) = l.any (·.1 == n) := by
  rw [List.any_append, any_fst_false.2 h, Bool.or_false]

theorem find_append_notin {l ex : List (String × Nat)} {n : String} (h : n ∉ namesOf ex) :
    (l ++ ex).find? (·.1 == n) = l.find? (·.1 == n) := by
  rw [List.find?_append, find?_fst_none.2 h, Option.or_none]

theorem resolveRef_frame {t : Target} {st : AState} {ex : List (String × Nat)} {n : String} (h : n ∉ namesOf ex) :
    resolveRef t (withLocals st ex) n = Except.map (withLocals · ex) (resolveRef t st n) := by
  unfold resolveRef
  simp only [withLocals, any_append_notin h]
  split
  · rfl
  · split <;> rfl

theorem resolveFix_frame {t : Target} {st : AState} {ex : List (String × Nat)} {f : Fixup}
    (h : ∀ n ∈ fixNames f, n ∉ namesOf ex) :
    resolveFix t (withLocals st ex) f = Except.map (withLocals · ex) (resolveFix t st f) := by
  unfold resolveFix
  rw [resolveRef_frame (h _ (sym_mem_fixNames f))]
  cases resolveRef t st f.sym with
  | error e => rfl
  | ok st1 =>
    simp only [Except.map]
    split
    · rfl
    · rename_i h2
      exact resolveRef_frame (h _ (sym2_mem_fixNames h2))

theorem resolveFixups_frame {t : Target} {fx : List Fixup} {st : AState} {ex : List (String × Nat)}
    (h : ∀ n ∈ fx.flatMap fixNames, n ∉ namesOf ex) :
    resolveFixups t (withLocals st ex) fx = Except.map (withLocals · ex) (resolveFixups t st fx) := by
  induction fx generalizing st with
  | nil => rfl
  | cons f fs ih =>
    simp only [List.flatMap_cons, List.mem_append] at h
    simp only [resolveFixups]
    rw [resolveFix_frame fun n hn => h n (.inl hn)]
    cases resolveFix t st f with
    | error e => rfl
    | ok st1 => exact ih fun n hn => h n (.inr hn)

theorem resolveTarget_frame {t : Target} {st : AState} {ex : List (String × Nat)} {n : String} (h : n ∉ namesOf ex) :
    resolveTarget t (withLocals st ex) n = (resolveTarget t st n).map (Prod.map (withLocals · ex) id) := by
  unfold resolveTarget
  simp only [withLocals, find_append_notin h]
  split
  · rfl
  · split
    · rfl
    · split
      · split <;> rfl
      · split <;> rfl

theorem insnTarget_frame {t : Target} {st : AState} {ex : List (String × Nat)} {ind : Bool} {fx : List Fixup}
    (h : ∀ n ∈ fx.flatMap fixNames, n ∉ namesOf ex) :
    insnTarget t (withLocals st ex) ind fx = (insnTarget t st ind fx).map (Prod.map (withLocals · ex) id) := by
  unfold insnTarget
  split
  · rfl
  · split
    · rename_i f
      split
      · rfl
      · rw [resolveTarget_frame (h _ (by simpa using sym_mem_fixNames f))]
        cases resolveTarget t st f.sym with
        | error e => rfl
        | ok r => rfl
    · rfl

theorem sect?_withLocals (st : AState) (ex : List (String × Nat)) : (withLocals st ex).sect? = st.sect? := rfl

theorem stepInsn_frame {t : Target} {st : AState} {s : ASect} {ex : List (String × Nat)} {size : Nat} {kind : IKind}
    {ind : Bool} {fx : List Fixup} (h : ∀ n ∈ fx.flatMap fixNames, n ∉ namesOf ex) :
    stepInsn t (withLocals st ex) s size kind ind fx = Except.map (withLocals · ex) (stepInsn t st s size kind ind fx) := by
  unfold stepInsn
  rw [resolveFixups_frame h]
  cases resolveFixups t st fx with
  | error e => rfl
  | ok st0 =>
    simp only [Except.map]
    cases kind with
    | other => rfl
    | ret => rfl
    | _ =>
      simp only []
      rw [show markCode (withLocals st0 ex) _ = withLocals (markCode st0 _) ex from rfl, insnTarget_frame h]
      cases insnTarget t (markCode st0 (insnSect s size fx).curBlock.id) ind fx with
      | error e => rfl
      | ok r => rfl

theorem stepIn_frame {t : Target} {st : AState} {s : ASect} {ex : List (String × Nat)} {ev : Event}
    (h : ∀ n ∈ ev.mentions, n ∉ namesOf ex) :
    stepIn t (withLocals st ex) s ev = Except.map (withLocals · ex) (stepIn t st s ev) := by
  cases ev with
  | label name =>
    simp only [stepIn, stepLabel, withLocals]
    rw [find_append_notin (h name (by simp [Event.mentions]))]
    cases st.locals.find? (·.1 == name) <;> rfl
  | insn size kind ind fx => exact stepInsn_frame h
  | value size f =>
    simp only [stepIn, stepValue]
    rw [resolveFix_frame h]
    cases resolveFix t st f <;> rfl
  | strBytes n z =>
    simp only [stepIn, stepStr, Except.map]
    have : canTerminate (withLocals st ex) s n z = canTerminate st s n z := rfl
    rw [this]
    split <;> rfl
  | leb sg f =>
    simp only [stepIn, stepLeb]
    rw [resolveFix_frame h]
    cases resolveFix t st f <;> rfl
  | align a =>
    simp only [stepIn, stepAlign, Except.map]
    split <;> rfl
  | _ => rfl

theorem step_frame {t : Target} {st : AState} {ex : List (String × Nat)} {ev : Event}
    (h : ∀ n ∈ ev.mentions, n ∉ namesOf ex) :
    step t (withLocals st ex) ev = Except.map (withLocals · ex) (step t st ev) := by
  cases ev with
  | «section» name exec =>
    simp only [step, Except.map, stepSection, withLocals]
    by_cases hc : (st.sects.any (·.name == name)) = true
    · simp only [hc, if_true]
    · simp only [hc]; rfl
  | _ =>
    simp only [step, sect?_withLocals]
    cases st.sect? with
    | none => rfl
    | some s => exact stepIn_frame h

theorem run_frame {t : Target} {evs : List Event} {st : AState} {ex : List (String × Nat)}
    (h : ∀ ev ∈ evs, ∀ n ∈ ev.mentions, n ∉ namesOf ex) :
    run t (withLocals st ex) evs = Except.map (withLocals · ex) (run t st evs) := by
  induction evs generalizing st with
  | nil => rfl
  | cons e es ih =>
    simp only [run]
    rw [step_frame (h e List.mem_cons_self)]
    cases step t st e with
    | error x => rfl
    | ok st1 => exact ih fun ev hev => h ev (List.mem_cons_of_mem _ hev)

theorem labelsOf_append (c1 c2 : List Event) : labelsOf (c1 ++ c2) = labelsOf c1 ++ labelsOf c2 := by
  induction c1 with
  | nil => rfl
  | cons e es ih => cases e <;> simp [labelsOf, ih]

theorem newLocals_append (k : Nat) (c1 c2 : List Event) :
    newLocals k (c1 ++ c2) = newLocals k c1 ++ newLocals (k + (labelsOf c1).length) c2 := by
  induction c1 generalizing k with
  | nil => simp [newLocals, labelsOf]
  | cons e es ih =>
    cases e <;> simp only [List.cons_append, newLocals, labelsOf, ih]
    case label n =>
      simp only [List.length_cons, List.cons.injEq, true_and, List.append_cancel_left_eq]
      have : k + 1 + (labelsOf es).length = k + ((labelsOf es).length + 1) := by omega
      rw [this]

theorem admits_append {t : Target} {st : AState} {k : Nat} {c1 c2 : List Event} :
    Admits t st (c1 ++ c2) ↔ Admits t st c1 ∧ Admits t (withLocals st (newLocals k c1)) c2 := by
  simp only [Admits, labelsOf_append, List.nodup_append, List.mem_append, unknown_withLocals, namesOf_newLocals]
  exact ⟨fun ⟨⟨hd1, hd2, hdis⟩, hu⟩ =>
      ⟨⟨hd1, fun n hn => hu n (.inl hn)⟩, hd2, fun n hn => ⟨hu n (.inr hn), fun h1 => hdis n h1 n hn rfl⟩⟩,
    fun ⟨⟨hd1, hu1⟩, hd2, hu2⟩ =>
      ⟨⟨hd1, hd2, fun x hx y hy he => (hu2 y hy).2 (he ▸ hx)⟩, fun n hn => hn.elim (hu1 n) (fun h2 => (hu2 n h2).1)⟩⟩

theorem run_append (t : Target) (st : AState) (c1 c2 : List Event) :
    run t st (c1 ++ c2) = (match run t st c1 with | .ok s => run t s c2 | .error e => .error e) := by
  induction c1 generalizing st with
  | nil => rfl
  | cons e es ih =>
    simp only [List.cons_append, run]
    cases step t st e with
    | error x => rfl
    | ok st1 => exact ih st1

end GtirbVerif.Asm
