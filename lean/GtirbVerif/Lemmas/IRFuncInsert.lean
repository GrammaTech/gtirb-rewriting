import GtirbVerif.Lemmas.IREntries

/-!
# Code inserted into a block of function F belongs to F

The patch's code blocks are entered into the function of the block they are inserted into
(`addPatchFunctions`); the clean-up that follows only takes a block out of the function tables
when it takes the block out of the module (`join_blocks`, `remove_block`).
-/
namespace GtirbVerif.IR
open GtirbVerif.Adt (CfgNode Label Edge)

/-- block `c` is in the table but detached from every byte interval -/
def Det (ir : IR) (c : Nat) : Prop := ∃ blk, ir.block? c = some blk ∧ blk.bi = none

/-- cache entries persist unless their block left the module; what left stays out -/
def FbbLe (a b : IR) : Prop :=
  (∀ c f, alookup c a.fbb = some f → alookup c b.fbb = some f ∨ Det b c) ∧ (∀ c, Det a c → Det b c)

theorem FbbLe.refl (a : IR) : FbbLe a a := ⟨fun _ _ h => Or.inl h, fun _ h => h⟩

theorem FbbLe.trans {a b c : IR} (h1 : FbbLe a b) (h2 : FbbLe b c) : FbbLe a c := by
  refine ⟨?_, fun k hk => h2.2 k (h1.2 k hk)⟩
  intro k f hk
  rcases h1.1 k f hk with h | h
  · exact h2.1 k f h
  · exact Or.inr (h2.2 k h)

theorem FbbLe.of_same {a b : IR} (hf : b.fbb = a.fbb) (hb : b.blocks = a.blocks) : FbbLe a b := by
  refine ⟨fun c f h => Or.inl (by rw [hf]; exact h), ?_⟩
  intro c ⟨blk, hblk, hbi⟩
  exact ⟨blk, by rw [block?_congr hb]; exact hblk, hbi⟩

theorem joinBlocks_fbb_other {ir ir' : IR} {id1 id2 : Nat} (h : ir.joinBlocks id1 id2 = .ok ir') (c : Nat) (hc : c ≠ id2) :
    alookup c ir'.fbb = alookup c ir.fbb := by
  obtain ⟨b1, b2, h1, h2⟩ := joinBlocks_blocks h
  obtain ⟨_, sect, _, rfl⟩ := joinBlocks_ok h h1 h2
  rw [setBlock_fbb, orderRemove_fbb, setBlock_fbb, joinTables_fbb]
  cases b2.isCode
  · rfl
  · obtain ⟨i3, he, hi⟩ := joinCode_split (ir.joinSyms b1 id2) b1 id2 b2.size
    rw [cond_true, he, removeFunctionBlock_lookup, if_neg hc, hi IR.fbb (fun _ _ => rfl)]
    rfl

theorem Keeps.det {a b : IR} (h : Keeps a b) (c : Nat) : Det a c → Det b c := fun ⟨blk, hb, hbi⟩ =>
  let ⟨blk', hb', hbi'⟩ := h c blk hb
  ⟨blk', hb', hbi'.elim (fun e => e.trans hbi) id⟩

theorem joinBlocks_fbble {ir ir' : IR} {id1 id2 : Nat} (h : ir.joinBlocks id1 id2 = .ok ir') : FbbLe ir ir' := by
  obtain ⟨b1, b2, h1, h2⟩ := joinBlocks_blocks h
  refine ⟨fun c f hc => ?_, (joinBlocks_touches h).1.det⟩
  by_cases hc2 : c = id2
  · exact Or.inr ⟨{ b2 with bi := none }, by rw [joinBlocks_block? h h1 h2, if_pos hc2], rfl⟩
  · left; rw [joinBlocks_fbb_other h c hc2]; exact hc

theorem removeFunctions_fbb_other (x : IR) (blk : Block) (n : Option Nat) (nc : Bool) (c : Nat) (hc : c ≠ blk.id) :
    alookup c (x.removeFunctions blk n nc).fbb = alookup c x.fbb := by
  rcases removeFunctions_cases x blk n nc with e | e | ⟨f, _, _, _, _, e⟩
  · rw [e]
  · rw [e, removeFunctionBlock_lookup, if_neg hc]
  · rw [e, removeFunctionBlock_lookup, if_neg hc]

/-- only the stages of a block that is taken out (`c`) touch the function tables -/
theorem removeStages_fbb_other (x : IR) (blk : Block) (t c : Bool) (px p n : Option Nat) (k : Nat)
    (hk : c = true → k ≠ blk.id) : alookup k (x.removeStages blk t c px p n).fbb = alookup k x.fbb := by
  cases c
  · rw [removeStages_false, removeCfi_fbb, removeAuxEntries_fbb, removeOutEdges_fbb]
  · rw [removeStages_true, removeCfi_fbb, removeAuxEntries_fbb, removeOutEdges_fbb, removeEntrypoints_fbb,
      removeFunctions_fbb_other _ _ _ _ _ (hk rfl), removeInEdges_fbb, removeSyms_fbb]

theorem removeBlock_fbb_other {ir ir' : IR} {b : Nat} {px r : Bool} (h : ir.removeBlock b px = .ok (ir', r)) (c : Nat)
    (hc : r = true → c ≠ b) : alookup c ir'.fbb = alookup c ir.fbb := by
  obtain ⟨blk, hb⟩ := removeBlock_block h
  obtain ⟨sect, _, _, rfl⟩ := removeBlock_ok h hb
  rw [← block?_id hb] at hc
  cases r
  · rw [cond_false, keepEmpty_fbb, removeStages_fbb_other _ _ _ false _ _ _ _ nofun, withProxy_fbb]
  · rw [cond_true, setBlock_fbb, orderRemove_fbb, removeStages_fbb_other _ _ _ _ _ _ _ _ hc, withProxy_fbb]

theorem removeBlock_fbble {ir ir' : IR} {b : Nat} {px r : Bool} (h : ir.removeBlock b px = .ok (ir', r)) : FbbLe ir ir' := by
  obtain ⟨blk, hb⟩ := removeBlock_block h
  refine ⟨fun c f hc => ?_, (removeBlock_touches h).1.det⟩
  by_cases hcb : r = true ∧ c = b
  · obtain ⟨rfl, rfl⟩ := hcb
    refine Or.inr ⟨{ blk with bi := none }, ?_, rfl⟩
    rw [removeBlock_block? h hb, if_pos rfl, if_pos rfl]
  · exact Or.inl ((removeBlock_fbb_other h c fun hr he => hcb ⟨hr, he⟩).trans hc)

theorem cleanup_fbble {ir ir' : IR} {bl : List Nat} {last : Nat}
    (h : ir.cleanup bl = .ok (ir', last)) : FbbLe ir ir' :=
  cleanup_rel FbbLe.refl FbbLe.trans joinBlocks_fbble removeBlock_fbble h

/-- the patch's code blocks are entered into the function of a code block `blk` -/
theorem addPatchFunctions_fbb {x : IR} {blk b : Block} {tb : List Block} {f : Nat} (hcode : blk.isCode = true)
    (hf : alookup blk.id x.fbb = some f) (hm : b ∈ tb) (hc : b.isCode = true) :
    alookup b.id (x.addPatchFunctions blk tb).fbb = some f := by
  unfold IR.addPatchFunctions
  rw [hcode, if_pos rfl, hf]
  dsimp only
  -- the step at `b` writes the entry, and a later step can only write `f` again
  obtain ⟨l1, l2, rfl⟩ := List.append_of_mem hm
  rw [List.foldl_append, List.foldl_cons, if_pos hc]
  refine foldl_inv (fun y : IR => alookup b.id y.fbb = some f) _ (fun y b' hy => ?_) l2 _ (alookup_aset_same ..)
  split
  · exact (alookup_aset ..).trans (ite_obs id rfl hy)
  · exact hy

theorem splitCode_fbb_other (x : IR) (b nb : Nat) (e : Bool) (c : Nat) (hc : c ≠ nb) :
    alookup c (x.splitCode b nb e).1.fbb = alookup c x.fbb := by
  obtain ⟨y, he, hy⟩ := splitCode_split x b nb e
  rw [he, ← hy IR.fbb (fun _ _ => rfl)]
  unfold IR.inheritFunction
  split
  · exact alookup_aset_other _ _ _ _ hc
  · rfl

theorem splitBlock_fbb_other {ir ir' : IR} {b off nb : Nat} {added : Bool}
    (h : ir.splitBlock b off = .ok (ir', nb, added)) (c : Nat) (hc : c ≠ nb) : alookup c ir'.fbb = alookup c ir.fbb := by
  obtain ⟨blk, sect, _, _, _, _, r, hr, _, rfl⟩ := splitBlock_ok h
  rw [orderInsertAfter_fbb, splitTables_fbb, hr]
  cases blk.isCode
  · rfl
  · rw [cond_true, splitCode_fbb_other _ _ _ _ _ hc]; rfl

theorem insertSplit_fbb_b {ir ir' : IR} {b off repl endB : Nat} {added : Bool}
    (h : ir.insertSplit b off repl = .ok (ir', endB, added)) (hI : IdsBelow ir) (hb : ir.block? b ≠ none) :
    alookup b ir'.fbb = alookup b ir.fbb := by
  obtain ⟨ir1, e0, hs1, hcase⟩ := insertSplit_ok h
  have hbe0 : b ≠ e0 := splitBlock_new_ne hs1 hI b hb
  rcases hcase with ⟨_, _, rfl⟩ | ⟨_, ir2, a2, d, hs2, hr⟩
  · rw [connectEmptyTail_fbb, splitBlock_fbb_other hs1 b hbe0]
  · rw [removeBlock_fbb_other hr b fun _ => hbe0, connectEmptyTail_fbb, splitBlock_fbb_other hs2 b (insertSplit_ne h hI hb),
      splitBlock_fbb_other hs1 b hbe0]

/-- a code block of a patch inserted into a code block of function `f` is in `f` by the cache when `insert` returns, or
the clean-up detached it -/
theorem insert_patch_fbb {ir ir' : IR} {b off repl last f : Nat} {p : Patch} {blk tbk : Block}
    (h : ir.insert b off repl p = .ok (ir', last)) (hb : ir.block? b = some blk) (hcode : blk.isCode = true)
    (hf : alookup b ir.fbb = some f) (hI : IdsBelow ir) (htb : tbk ∈ p.text.blocks) (hc : tbk.isCode = true) :
    alookup tbk.id ir'.fbb = some f ∨ Det ir' tbk.id := by
  obtain ⟨blk', ir2, endB, added, A, ir12, hb', hs, hA, _, ho, hcl⟩ := insert_ok_funcs h
  rw [hb] at hb'; injection hb' with e; subst e
  -- the split kept the function of `b`
  have hf2 : alookup blk.id A.fbb = some f := by
    rw [block?_id hb, show A.fbb = ir2.fbb from congrArg (·.1) hA,
      insertSplit_fbb_b hs hI (by rw [hb]; exact Option.some_ne_none _), hf]
  -- the clean-up only forgets blocks that leave the module
  refine (cleanup_fbble hcl).1 tbk.id f ?_
  rw [bumpNext_fbb, addOthers_fbb ho]
  exact addPatchFunctions_fbb hcode hf2 htb hc

end GtirbVerif.IR
