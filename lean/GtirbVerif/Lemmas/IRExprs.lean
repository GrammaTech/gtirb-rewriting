import GtirbVerif.Lemmas.IRSymClosed

/-!
# The symbols of symbolic expressions are symbols of the module — over whole rewrites

`ExprOk pend ir`: every symbolic expression of every byte interval names symbols of the module
(or, while a patch is being spliced in, symbols the patch brings: `pend`).  No step of a rewrite
removes a symbol; `edit_byte_interval` only drops or moves expressions, a patch adds expressions
that name module symbols or its own.
-/
namespace GtirbVerif.IR
open GtirbVerif.Adt (CfgNode Label Edge)

def symIds (ir : IR) : List Nat := ir.syms.map (·.id)

/-- the symbols an expression names are among `ids` -/
def exprIn (ids : List Nat) (e : SymExpr) : Prop := e.sym1 ∈ ids ∧ (e.kind = 1 → e.sym2 ∈ ids)

def ExprOk (pend : List Nat) (ir : IR) : Prop :=
  ∀ iv ∈ ir.intervals, ∀ ke ∈ iv.symExprs, exprIn (symIds ir ++ pend) ke.2

theorem exprIn.mono {a b : List Nat} {e : SymExpr} (h : ∀ k ∈ a, k ∈ b) (he : exprIn a e) : exprIn b e :=
  ⟨h _ he.1, fun hk => h _ (he.2 hk)⟩

theorem ExprOk.of_ids {a b : IR} {pend pend' : List Nat} (hi : b.intervals = a.intervals)
    (hs : ∀ k ∈ symIds a ++ pend, k ∈ symIds b ++ pend') (h : ExprOk pend a) : ExprOk pend' b := by
  intro iv hiv ke hke
  rw [hi] at hiv
  exact (h iv hiv ke hke).mono hs

theorem ExprOk.of_same {a b : IR} {pend : List Nat} (hi : b.intervals = a.intervals) (hs : symIds b = symIds a)
    (h : ExprOk pend a) : ExprOk pend b :=
  h.of_ids hi (fun k hk => by rw [hs]; exact hk)

theorem symIds_of_syms {a b : IR} (h : b.syms = a.syms) : symIds b = symIds a := by unfold symIds; rw [h]

theorem symIds_map (l : List Sym) (f : Sym → Sym) (hf : ∀ y, (f y).id = y.id) : (l.map f).map (·.id) = l.map (·.id) := by
  rw [List.map_map]
  apply List.map_congr_left
  intro y _
  exact hf y

theorem splitBlock_symIds {ir ir' : IR} {b off nb : Nat} {added : Bool}
    (h : ir.splitBlock b off = .ok (ir', nb, added)) : symIds ir' = symIds ir := by
  obtain ⟨blk, _, hb, _⟩ := splitBlock_ok h
  unfold symIds
  rw [(splitBlock_syms_blocks h hb).2.2.1]
  exact symIds_map _ _ (fun y => by unfold splitSym; split <;> rfl)

theorem joinBlocks_symIds {ir ir' : IR} {id1 id2 : Nat} (h : ir.joinBlocks id1 id2 = .ok ir') : symIds ir' = symIds ir := by
  obtain ⟨b1, b2, h1, h2⟩ := joinBlocks_blocks h
  unfold symIds
  rw [(joinBlocks_syms_blocks h h1 h2).2.1]
  exact symIds_map _ _ (fun y => by unfold joinSym; split <;> rfl)

theorem removeBlock_symIds {ir ir' : IR} {b : Nat} {px r : Bool} (h : ir.removeBlock b px = .ok (ir', r)) :
    symIds ir' = symIds ir := by
  obtain ⟨blk, hb⟩ := removeBlock_block h
  unfold symIds
  rw [removeBlock_syms h hb]
  split
  · exact symIds_map _ _ (fun y => by unfold removeSym; split <;> rfl)
  · rfl

theorem cleanup_symIds {ir ir' : IR} {bl : List Nat} {last : Nat} (h : ir.cleanup bl = .ok (ir', last)) :
    symIds ir' = symIds ir :=
  cleanup_rel (R := fun a b => symIds b = symIds a) (fun _ => rfl) (fun h1 h2 => h2.trans h1)
    joinBlocks_symIds removeBlock_symIds h

theorem insertSplit_symIds {ir ir' : IR} {b off repl endB : Nat} {added : Bool}
    (h : ir.insertSplit b off repl = .ok (ir', endB, added)) : symIds ir' = symIds ir := by
  obtain ⟨ir1, e0, hs1, hcase⟩ := insertSplit_ok h
  rcases hcase with ⟨_, _, rfl⟩ | ⟨_, ir2, a2, d, hs2, hr⟩
  · rw [symIds_of_syms (core_syms (connectEmptyTail_core _ _)), splitBlock_symIds hs1]
  · rw [removeBlock_symIds hr, symIds_of_syms (core_syms (connectEmptyTail_core _ _)), splitBlock_symIds hs2,
      splitBlock_symIds hs1]

/-! ### `ExprOk` through the block operations

They keep the byte intervals and the ids of the symbols, which is all the expressions see: no ids below the
counter, no distinct blocks are needed here.  Only `edit_byte_interval` touches expressions. -/

theorem removeBlock_exprok {ir ir' : IR} {b : Nat} {px r : Bool} {pend : List Nat}
    (h : ir.removeBlock b px = .ok (ir', r)) (he : ExprOk pend ir) : ExprOk pend ir' :=
  he.of_same (removeBlock_intervals h) (removeBlock_symIds h)

theorem cleanup_exprok {ir ir' : IR} {bl : List Nat} {last : Nat} {pend : List Nat}
    (h : ir.cleanup bl = .ok (ir', last)) (he : ExprOk pend ir) : ExprOk pend ir' :=
  he.of_same (cleanup_intervals h) (cleanup_symIds h)

theorem insertSplit_exprok {ir ir' : IR} {b off repl endB : Nat} {added : Bool} {pend : List Nat}
    (h : ir.insertSplit b off repl = .ok (ir', endB, added)) (he : ExprOk pend ir) : ExprOk pend ir' :=
  he.of_same (insertSplit_intervals h) (insertSplit_symIds h)

theorem editInterval_exprok {ir : IR} {pend : List Nat} (i off len : Nat) (c st : List Nat) (he : ExprOk pend ir) :
    ExprOk pend (ir.editInterval i off len c st) := by
  unfold IR.editInterval
  split
  · exact he
  · rename_i bi hbi
    intro iv hiv ke hke
    rcases mem_setInterval (show iv ∈ (ir.setInterval _).intervals from hiv) with rfl | hm
    · -- an expression of the edited interval was one of it before, under another key
      obtain ⟨k, v⟩ := ke
      obtain ⟨k0, hk0, _⟩ := (mem_shiftKeys off len c.length bi.symExprs k v).mp hke
      exact he bi (List.mem_of_find?_eq_some hbi) (k0, v) hk0
    · exact he iv hm ke hke

theorem delete_exprok {ir ir' : IR} {b off len : Nat} {px : Bool} {r : Option Nat} {pend : List Nat}
    (h : ir.delete b off len px = .ok (ir', r)) (he : ExprOk pend ir) : ExprOk pend ir' := by
  obtain ⟨blk, i, _, _, hcase⟩ := delete_ok h
  rcases hcase with ⟨_, rfl, _⟩ | ⟨ir3, e2, a, last, hs, hc, _⟩ | ⟨_, ir1, d, hr, rfl | ⟨d3, _, hr3⟩⟩
  · exact he
  · exact cleanup_exprok hc (editInterval_exprok _ _ _ _ _ (insertSplit_exprok hs he))
  · exact editInterval_exprok _ _ _ _ _ (removeBlock_exprok hr he)
  · exact removeBlock_exprok hr3 (editInterval_exprok _ _ _ _ _ (removeBlock_exprok hr he))

theorem mem_foldl_aset (base : Nat) : ∀ (ex : List (Nat × SymExpr)) (m : List (Nat × SymExpr)) (ke : Nat × SymExpr),
    ke ∈ ex.foldl (fun m (x : Nat × SymExpr) => aset (base + x.1) x.2 m) m → ke ∈ m ∨ ∃ k0, (k0, ke.2) ∈ ex := by
  intro ex
  induction ex with
  | nil => intro m ke h; exact Or.inl h
  | cons x xs ih =>
    intro m ke h
    rcases ih _ ke h with h1 | ⟨k0, h1⟩
    · rcases mem_aset h1 with h2 | h2
      · exact Or.inl h2
      · exact Or.inr ⟨x.1, by rw [h2]; exact List.mem_cons_self⟩
    · exact Or.inr ⟨k0, List.mem_cons_of_mem _ h1⟩

theorem addPatchExprs_exprok {ir : IR} {pend : List Nat} (i base : Nat) (ex : List (Nat × SymExpr))
    (he : ExprOk pend ir) (hex : ∀ ke ∈ ex, exprIn (symIds ir ++ pend) ke.2) : ExprOk pend (ir.addPatchExprs i base ex) := by
  unfold IR.addPatchExprs
  split
  · exact he
  · rename_i bi hbi
    intro iv hiv ke hke
    rcases mem_setInterval (show iv ∈ (ir.setInterval _).intervals from hiv) with rfl | hm
    · rcases mem_foldl_aset base ex bi.symExprs ke hke with h1 | ⟨k0, h1⟩
      · exact he bi (List.mem_of_find?_eq_some hbi) ke h1
      · exact hex (k0, ke.2) h1
    · exact he iv hm ke hke

/-- **the expressions a patch brings name symbols of the module or its own** -/
structure PatchExprOk (ir : IR) (p : Patch) : Prop where
  text : ∀ ke ∈ p.text.symExprs, exprIn (symIds ir ++ p.syms.map (·.id)) ke.2
  others : ∀ x ∈ p.others, ∀ ke ∈ x.1.symExprs, exprIn (symIds ir ++ p.syms.map (·.id)) ke.2

theorem addOthers_exprok {ir ir' : IR} {p : Patch} (K : List Nat) (h : ir.addOthers p = .ok ir')
    (hp : ∀ x ∈ p.others, ∀ ke ∈ x.1.symExprs, exprIn K ke.2) (he : ExprOk [] ir) (hK : ∀ k ∈ K, k ∈ symIds ir) :
    ExprOk [] ir' :=
  (addOthers_induct (P := fun a l => (∀ x ∈ l, x ∈ p.others) ∧ symIds a = symIds ir ∧ ExprOk [] a)
    (fun {i i' ns x xs} hao hP => by
      obtain ⟨hl, hS, hE⟩ := hP
      obtain ⟨kept, aux1, _, hi', _⟩ := addOtherSection_ok hao
      have hsy : symIds i' = symIds ir :=
        (symIds_of_syms (by rw [hi']; exact orderAppend_obs IR.syms (fun _ _ => rfl) ..)).trans hS
      obtain ⟨bi, hbe, hiv⟩ : ∃ bi : Interval, bi.symExprs = x.1.symExprs ∧ i'.intervals = i.intervals ++ [bi] :=
        ⟨_, rfl, by rw [hi']; exact orderAppend_intervals ..⟩
      -- the symbols take the copies the section returned: same ids
      have hj := symIds_map i'.syms _ (osUpdate_id ns)
      refine ⟨fun y hy => hl y (List.mem_cons_of_mem _ hy), hj.trans hsy,
        ExprOk.of_same (a := i') rfl hj fun iv hivm ke hke => ?_⟩
      rw [hsy]
      rcases List.mem_append.mp (hiv ▸ hivm) with hm | hm
      · exact hS ▸ hE iv hm ke hke
      · rw [List.mem_singleton.mp hm, hbe] at hke
        exact (hp x (hl x List.mem_cons_self) ke hke).mono (fun k hk => List.mem_append_left _ (hK k hk)))
    h ⟨fun _ hx => hx, rfl, he⟩).2.2

theorem insert_exprok {ir ir' : IR} {b off repl last : Nat} {p : Patch}
    (h : ir.insert b off repl p = .ok (ir', last)) (he : ExprOk [] ir) (hp : PatchExprOk ir p) : ExprOk [] ir' := by
  obtain ⟨blk, i, sect, ir2, endB, added, ir12, _, _, _, hsp, hoth, hcl⟩ := insert_ok h
  have e2 := insertSplit_exprok hsp he
  -- the first piece: a byte edit on a state with the intervals and the symbols of `ir2`
  have hsE : (ir.insertPlace ir2 blk i b off repl endB added p).syms = ir2.syms :=
    insertPlace_obs IR.syms (fun _ _ => rfl) (fun _ _ _ _ => rfl) ..
  have hiE : symIds (ir.insertPlace ir2 blk i b off repl endB added p) = symIds ir :=
    (symIds_of_syms hsE).trans (insertSplit_symIds hsp)
  have eE : ExprOk [] (ir.insertPlace ir2 blk i b off repl endB added p) := by
    rw [IR.insertPlace]
    have eS : ExprOk [] ((ir2.addReturnEdgesForPatchCalls (ir.patchCfg blk b p).1).1.insertStitch p.text.blocks b endB added) :=
      e2.of_same (by rw [insertStitch_intervals, addReturnEdgesForPatchCalls_intervals])
        (symIds_of_syms (by rw [insertStitch_syms, addReturnEdgesForPatchCalls_syms]))
    exact (editInterval_exprok i (blk.off + off) repl p.text.data [b] eS).of_same (placePatchBlocks_intervals ..)
      (symIds_of_syms (placePatchBlocks_syms ..))
  generalize ir.insertPlace ir2 blk i b off repl endB added p = E at hoth hiE eE
  -- the second piece: the patch's expressions arrive, then its symbols join the module's
  have hiX : symIds (ir.insertTables ir2 E blk i sect b off p) = symIds ir ++ p.syms.map (·.id) := by
    unfold symIds at hiE ⊢
    rw [insertTables_syms, List.map_append, hiE]
  have eX : ExprOk [] (ir.insertTables ir2 E blk i sect b off p) := by
    have eQ := addPatchExprs_exprok (pend := p.syms.map (·.id)) i (blk.off + off) p.text.symExprs
      (eE.of_ids rfl (fun k hk => List.mem_append_left _ (by simpa using hk))) (by rw [hiE]; exact hp.text)
    refine eQ.of_ids (by rw [IR.insertTables, addPatchFunctions_intervals]; rfl) (fun k hk => ?_)
    rw [hiX, List.append_nil, ← hiE, ← symIds_of_syms (addPatchExprs_syms E i (blk.off + off) p.text.symExprs)]
    exact hk
  exact cleanup_exprok hcl ((addOthers_exprok (symIds ir ++ p.syms.map (·.id)) hoth hp.others eX
    (fun k hk => by rw [hiX]; exact hk)).of_same rfl rfl)

theorem loopInsert_exprok {ir ir' : IR} {func : Option Nat} {ab : Block} {a ao repl last : Nat} {p : Patch}
    (h : ir.loopInsert func ab a ao repl p = .ok (ir', last)) (he : ExprOk [] ir) (hp : PatchExprOk ir p) : ExprOk [] ir' := by
  obtain ⟨ir1, hins, h'⟩ := loopInsert_ok h
  have e1 := insert_exprok hins he hp
  rcases h' with rfl | ⟨f, rfl⟩
  · exact e1
  · exact e1.of_same (adoptPatchBlocks_same ir1 p f).2.1 (symIds_of_syms (adoptPatchBlocks_syms _ _ _))

/-- the expressions of every patch name module symbols or its own, along the loop -/
def PatchExprs (origOff : Nat) (func : Option Nat) : IR → Option Nat → Int → List Mod → Prop
  | _, _, _, [] => True
  | _, none, _, _ :: _ => True
  | ir, some a, total, m :: ms =>
    match ir.block? a with
    | none => True
    | some ab =>
      match m with
      | .ins o repl p =>
        PatchExprOk ir p ∧
        ∀ ir' last, ir.loopInsert func ab a (actualOffset origOff ab total o).toNat repl p = .ok (ir', last) →
          PatchExprs origOff func ir' (some last) (total + (p.text.data.length : Int) - (repl : Int)) ms
      | .del o len px =>
        ∀ ir' r, ir.delete a (actualOffset origOff ab total o).toNat len px = .ok (ir', r) →
          PatchExprs origOff func ir' r (total - (len : Int)) ms

theorem PatchExprs.ins {origOff : Nat} {func : Option Nat} {ir : IR} {a : Nat} {ab : Block} {total : Int} {o repl : Nat}
    {p : Patch} {ms : List Mod} (hab : ir.block? a = some ab)
    (h : PatchExprs origOff func ir (some a) total (.ins o repl p :: ms)) :
    PatchExprOk ir p ∧ ∀ ir' last, ir.loopInsert func ab a (actualOffset origOff ab total o).toNat repl p = .ok (ir', last) →
      PatchExprs origOff func ir' (some last) (total + (p.text.data.length : Int) - (repl : Int)) ms := by
  unfold PatchExprs at h; rw [hab] at h; exact h

theorem PatchExprs.del {origOff : Nat} {func : Option Nat} {ir : IR} {a : Nat} {ab : Block} {total : Int} {o len : Nat}
    {px : Bool} {ms : List Mod} (hab : ir.block? a = some ab)
    (h : PatchExprs origOff func ir (some a) total (.del o len px :: ms)) :
    ∀ ir' r, ir.delete a (actualOffset origOff ab total o).toNat len px = .ok (ir', r) →
      PatchExprs origOff func ir' r (total - (len : Int)) ms := by
  unfold PatchExprs at h; rw [hab] at h; exact h

/-- **every symbolic expression names symbols of the module, through the whole loop over the
requests of a block** -/
theorem applyMods_exprok (origOff : Nat) (func : Option Nat) : ∀ (ms : List Mod) (ir ir' : IR) (actual : Option Nat)
    (total : Int),
    IR.applyMods origOff func ir actual total ms = .ok ir' → PatchExprs origOff func ir actual total ms →
    ExprOk [] ir → ExprOk [] ir' := by
  intro ms
  induction ms with
  | nil =>
    intro ir ir' actual total h _ he
    unfold IR.applyMods at h
    injection h with h; subst h
    exact he
  | cons m ms ih =>
    intro ir ir' actual total h hnew he
    obtain ⟨a, ab, rfl, hab, _, hstep⟩ := applyMods_cons_ok h
    rcases hstep with ⟨o, repl, p, ir1, last, rfl, hl, h⟩ | ⟨o, len, px, ir1, r, rfl, hd, h⟩
    · obtain ⟨hp, hnext⟩ := hnew.ins hab
      exact ih ir1 ir' (some last) _ h (hnext ir1 last hl) (loopInsert_exprok hl he hp)
    · exact ih ir1 ir' r _ h (hnew.del hab ir1 r hd) (delete_exprok hd he)

def PatchExprsAll : IR → List BlockMods → Prop
  | _, [] => True
  | ir, r :: rest =>
    match ir.block? r.block with
    | none => True
    | some blk =>
      PatchExprs blk.off r.func ir (some r.block) 0 r.mods ∧
      ∀ ir', ir.applyMods blk.off r.func (some r.block) 0 r.mods = .ok ir' → PatchExprsAll ir' rest

/-- **… and through `apply()`'s whole loop over the blocks** -/
theorem applyAll_exprok : ∀ (rs : List BlockMods) (ir ir' : IR),
    ir.applyAll rs = .ok ir' → PatchExprsAll ir rs → ExprOk [] ir → ExprOk [] ir' := by
  intro rs
  induction rs with
  | nil =>
    intro ir ir' h _ he
    unfold IR.applyAll at h
    injection h with h; subst h; exact he
  | cons r rest ih =>
    intro ir ir' h hnew he
    obtain ⟨blk, ir1, hb, hmod, h⟩ := applyAll_cons_ok h
    unfold PatchExprsAll at hnew
    rw [hb] at hnew
    exact ih ir1 ir' h (hnew.2 ir1 hmod) (applyMods_exprok blk.off r.func r.mods ir ir1 (some r.block) 0 hmod hnew.1 he)

theorem exprInB_sound {ids : List Nat} {e : SymExpr} (h : exprInB ids e = true) : exprIn ids e := by
  unfold exprInB at h
  simp only [Bool.and_eq_true, Bool.or_eq_true, List.contains_iff_mem, bne_iff_ne, ne_eq] at h
  refine ⟨by simpa using h.1, fun hk => ?_⟩
  rcases h.2 with h2 | h2
  · exact absurd hk h2
  · simpa using h2

theorem exprOkB_sound {ir : IR} (h : ir.exprOkB = true) : ExprOk [] ir := by
  intro iv hiv ke hke
  unfold IR.exprOkB at h
  have h1 := List.all_eq_true.mp h iv hiv
  have h2 := List.all_eq_true.mp h1 ke hke
  have := exprInB_sound h2
  exact this.mono (fun k hk => List.mem_append_left _ hk)

theorem patchExprOkB_sound {ir : IR} {p : Patch} (h : ir.patchExprOkB p = true) : PatchExprOk ir p := by
  unfold IR.patchExprOkB at h
  simp only [Bool.and_eq_true] at h
  refine ⟨?_, ?_⟩
  · intro ke hke
    exact exprInB_sound (List.all_eq_true.mp h.1 ke hke)
  · intro x hx ke hke
    exact exprInB_sound (List.all_eq_true.mp (List.all_eq_true.mp h.2 x hx) ke hke)

end GtirbVerif.IR
