import GtirbVerif.Model.IR.Batch
import GtirbVerif.Lemmas.IRTouch
import GtirbVerif.Lemmas.IROk

/-!
# What a successful run of a composite operation consisted of

`insert`, `delete`, `insertSplit` and `_cleanup_modified_blocks` are compositions of five block
primitives (`splitBlock`, `joinBlocks`, `removeBlock`, `connectEmptyTail`, `editInterval`).  `op_ok` says which
primitive runs `op … = .ok r` was made of, the `_induct` lemmas walk a loop once (`cleanup_rel`, `addOthers_rel`:
for a relation that composes); `loopInsert_ok`, `applyMods_cons_ok` and `applyAll_cons_ok` open the loops of
`_apply_modifications` and `apply()` by one request, `adoptPatchBlocks_obs` is the frame fact of the one step
of theirs that is no operation of its own.  An invariant proof starts from these and never unfolds the
operation itself.
-/
namespace GtirbVerif.IR
open GtirbVerif.Adt (CfgNode Label Edge)

universe u

/-! The straight-line middle of `IR.insert` (Model/IR/Modify.lean), between `insertSplit` and `addOthers`, in
three named pieces so that `insert_ok` can state it: `patchCfg` is the `let pc`, `insertPlace` runs from `r0` to
`placePatchBlocks` (the first step of `ir8`), `insertTables` from `addPatchExprs` to `addPatchFunctions`.
`IR.insert` is not defined through them; `insert_ok` shows that it computes them. -/

/-- the patch's CFG and proxies, return edges matched to those of the function inserted into -/
def IR.patchCfg (ir : IR) (blk : Block) (b : Nat) (p : Patch) : List Edge × List Nat :=
  if blk.isCode then ir.matchPatchReturnEdges b p.cfg p.proxies else (p.cfg, p.proxies)

/-- from the state `ir2` after the split to the patch's blocks in the block table: return edges of
calls, stitch, byte edit, placement (`ir`: the state `insert` started from) -/
def IR.insertPlace (ir ir2 : IR) (blk : Block) (i b off repl endB : Nat) (added : Bool) (p : Patch) : IR :=
  ((((ir2.addReturnEdgesForPatchCalls (ir.patchCfg blk b p).1).1.insertStitch p.text.blocks b endB added).editInterval
    i (blk.off + off) repl p.text.data [b]).placePatchBlocks p.text.blocks i (blk.off + off))

/-- … and the patch's tables on top of `x`: expressions, ordering, CFG/symbols/proxies, aux data, functions -/
def IR.insertTables (ir ir2 x : IR) (blk : Block) (i sect b off : Nat) (p : Patch) : IR :=
  (((((x.addPatchExprs i (blk.off + off) p.text.symExprs).orderInsertAfter sect b (p.text.blocks.map (·.id))).addPatchNodes p
    (ir2.addReturnEdgesForPatchCalls (ir.patchCfg blk b p).1).2 (ir.patchCfg blk b p).2).addPatchAux p i (blk.off + off)).addPatchFunctions
    blk p.text.blocks)

theorem insertPlace_obs {α : Sort u} (π : IR → α) (hc : CfgFree π)
    (he : ∀ (ir : IR) iv b o, π { ir with intervals := iv, blocks := b, aux := { ir.aux with omaps := o } } = π ir)
    (ir ir2 : IR) (blk : Block) (i b off repl endB : Nat) (added : Bool) (p : Patch) :
    π (ir.insertPlace ir2 blk i b off repl endB added p) = π ir2 := by
  rw [IR.insertPlace]
  have hb : ∀ (x : IR) bl, π { x with blocks := bl } = π x := fun x bl => he x x.intervals bl x.aux.omaps
  exact (hb _ _).trans ((editInterval_obs π he ..).trans ((insertStitch_obs π hc ..).trans
    ((hb _ _).trans (addReturnEdgesForPatchCalls_obs π hc ..))))

theorem insertTables_split (ir ir2 x : IR) (blk : Block) (i sect b off : Nat) (p : Patch) :
    ∃ A : IR, ir.insertTables ir2 x blk i sect b off p = A.addPatchFunctions blk p.text.blocks ∧
      ∀ {α : Sort u} (π : IR → α), (∀ (ir : IR) iv, π { ir with intervals := iv } = π ir) →
        (∀ (ir : IR) o c s px se al en cf om es,
          π { ir with order := o, cfg := c, syms := s, proxies := px, sections := se,
                      aux := { ir.aux with alignment := al, encodings := en, cfi := cf, omaps := om, elfSymInfo := es } } = π ir) →
        π A = π x := by
  refine ⟨_, rfl, fun π hx hr => ?_⟩
  exact (hr (x.addPatchExprs i (blk.off + off) p.text.symExprs) ..).trans (addPatchExprs_obs π hx ..)

theorem insertSplit_ok {ir ir' : IR} {b off repl endB : Nat} {added : Bool}
    (h : ir.insertSplit b off repl = .ok (ir', endB, added)) :
    ∃ ir1 e0, ir.splitBlock b off = .ok (ir1, e0, added) ∧
      ((repl = 0 ∧ endB = e0 ∧ ir' = ir1.connectEmptyTail e0) ∨
       (repl ≠ 0 ∧ ∃ ir2 a2 d, ir1.splitBlock e0 repl = .ok (ir2, endB, a2) ∧
          (ir2.connectEmptyTail endB).removeBlock e0 false = .ok (ir', d))) := by
  unfold IR.insertSplit at h
  split at h
  · cases h
  · rename_i ir1 e0 a0 hs1
    split at h
    · rename_i hr
      split at h
      · cases h
      · rename_i i2 e2 a2 hs2
        split at h
        · cases h
        · rename_i i3 d3 hrm
          cases h
          exact ⟨ir1, e0, hs1, Or.inr ⟨by simpa using hr, i2, a2, d3, hs2, hrm⟩⟩
    · rename_i hr
      cases h
      exact ⟨_, _, hs1, Or.inl ⟨by simpa using hr, rfl, rfl⟩⟩

theorem delete_ok {ir ir' : IR} {b off len : Nat} {px : Bool} {r : Option Nat}
    (h : ir.delete b off len px = .ok (ir', r)) :
    ∃ blk i, ir.block? b = some blk ∧ blk.bi = some i ∧
      ((len = 0 ∧ ir' = ir ∧ r = some b) ∨
       (∃ ir3 e2 a last, ir.insertSplit b off len = .ok (ir3, e2, a) ∧
          (ir3.editInterval i (blk.off + off) len [] [b]).cleanup [b, e2] = .ok (ir', last) ∧ r = some last) ∨
       (r = none ∧ ∃ ir1 d, ir.removeBlock b px = .ok (ir1, d) ∧
          (ir' = ir1.editInterval i (blk.off + off) len [] [b] ∨
           ∃ d3, (ir1.editInterval i (blk.off + off) len [] [b]).sizeOr1 ((ir.adjacent blk).1.getD 0) = 0 ∧
             (ir1.editInterval i (blk.off + off) len [] [b]).removeBlock ((ir.adjacent blk).1.getD 0) false =
               .ok (ir', d3)))) := by
  unfold IR.delete at h
  split at h
  · cases h
  rename_i blk hb
  obtain ⟨_, h⟩ := passed_guard h nofun
  split at h
  · cases h
  rename_i i hbi
  refine ⟨blk, i, hb, hbi, ?_⟩
  by_cases c2 : (len == 0 && blk.size != 0) = true
  · rw [if_pos c2] at h
    cases h
    exact Or.inl ⟨by simp at c2; exact c2.1, rfl, rfl⟩
  rw [if_neg c2] at h
  by_cases c3 : (len != blk.size) = true
  · -- part of the block; `len ≠ 0` here, so the three steps are those of `insertSplit`
    rw [if_pos c3] at h
    have hl : (len != 0) = true := by
      simp only [Bool.and_eq_true, beq_iff_eq, bne_iff_ne, ne_eq, not_and, Decidable.not_not] at c2 c3 ⊢
      intro h0; exact c3 (h0.trans (c2 h0).symm)
    right; left
    unfold IR.insertSplit
    split at h
    · cases h
    rename_i ir1 e1 a1 hs1
    split at h
    · cases h
    rename_i ir2 e2 a2 hs2
    extract_lets ir2t at h
    split at h
    · cases h
    rename_i ir3 d3 hr3
    extract_lets ir4 at h
    split at h
    · cases h
    rename_i ir5 last hc
    cases h
    refine ⟨ir3, e2, a1, last, ?_, hc, rfl⟩
    have hr3' : (ir2.connectEmptyTail e2).removeBlock e1 false = .ok (ir3, d3) := hr3
    rw [if_pos hl, hr3']
  · -- the whole block
    rw [if_neg c3] at h
    extract_lets prev next at h
    split at h
    · cases h
    rename_i ir1 d hr1
    extract_lets ir2 at h
    right; right
    by_cases c4 : (d && prev.isSome && next.isSome && ir2.sizeOr1 (prev.getD 0) == 0 && !px) = true
    · rw [if_pos c4] at h
      split at h
      · cases h
      rename_i ir3 d3 hr3
      cases h
      simp only [Bool.and_eq_true, beq_iff_eq] at c4
      exact ⟨rfl, ir1, d, hr1, Or.inr ⟨d3, c4.1.2, hr3⟩⟩
    · rw [if_neg c4] at h
      injection h with h; injection h with h1 h2; subst h1
      exact ⟨h2.symm, ir1, d, hr1, Or.inl rfl⟩

theorem insert_ok {ir ir' : IR} {b off repl last : Nat} {p : Patch}
    (h : ir.insert b off repl p = .ok (ir', last)) :
    ∃ blk i sect ir2 endB added ir12,
      ir.block? b = some blk ∧ blk.bi = some i ∧ ir.sectionOf blk = some sect ∧
      ir.insertSplit b off repl = .ok (ir2, endB, added) ∧
      (ir.insertTables ir2 (ir.insertPlace ir2 blk i b off repl endB added p) blk i sect b off p).addOthers p = .ok ir12 ∧
      (ir12.bumpNext p).cleanup ([b] ++ p.text.blocks.map (·.id) ++ [endB]) = .ok (ir', last) := by
  -- `split` on an `if` simplifies the whole else-branch, and `simp only []` substitutes every `let`:
  -- the guards are passed one by one, the `let`s are named
  unfold IR.insert at h
  split at h
  · cases h
  rename_i blk hb
  obtain ⟨_, h⟩ := passed_guard h nofun
  obtain ⟨_, h⟩ := passed_guard h nofun
  split at h
  · rename_i i sect hbi hsect
    extract_lets tb lastB pc base at h
    obtain ⟨_, h⟩ := passed_guard h nofun
    obtain ⟨_, h⟩ := passed_guard h nofun
    obtain ⟨_, h⟩ := passed_guard h nofun
    obtain ⟨_, h⟩ := passed_guard h nofun
    split at h
    · cases h
    rename_i ir2 endB added hs
    extract_lets r0 ir2' ir5 ir8 ir9 at h
    obtain ⟨_, h⟩ := passed_guard h nofun
    split at h
    · cases h
    rename_i ir12 ho
    exact ⟨blk, i, sect, ir2, endB, added, ir12, hb, hbi, hsect, hs, ho, h⟩
  · cases h

/-! ### `_cleanup_modified_blocks`

It joins a block of the list with a later one and removes blocks of the list, nothing else: `P` only
has to survive those two kinds of step.  A reflexive and transitive relation `R` is the case
`P := R ir`; an invariant that needs two *different* blocks at a join gets them from `bl.Nodup`.
The model's `while True` runs on fuel (`bl.length + 1`: a pass that changes something shortens the list);
the lemmas speak of `.ok` runs on any fuel, one that ran out included. -/

section cleanup
variable {P : IR → Prop} {bl : List Nat}
  (hjoin : ∀ {x x' : IR} {a c : Nat}, [a, c].Sublist bl → x.joinBlocks a c = .ok x' → P x → P x')
  (hrem : ∀ {x x' : IR} {c : Nat} {r : Bool}, c ∈ bl → x.removeBlock c false = .ok (x', r) → P x → P x')
include hjoin hrem

theorem cleanupPass_induct : ∀ (rest : List Nat) (ir ir' : IR) (pred : Nat) (done : List Nat) (r : Option (List Nat)),
    ir.cleanupPass pred rest done = .ok (ir', r) → (done ++ pred :: rest).Sublist bl → P ir →
    P ir' ∧ ∀ bl', r = some bl' → bl'.Sublist bl := by
  intro rest
  induction rest with
  | nil =>
    intro ir ir' pred done r h _ hp
    unfold IR.cleanupPass at h
    cases h
    exact ⟨hp, fun _ hr => by cases hr⟩
  | cons b rest ih =>
    intro ir ir' pred done r h hsub hp
    -- the scan drops `b` from the list when it changes something
    have hdrop : (done ++ [pred] ++ rest).Sublist bl := by
      refine List.Sublist.trans ?_ hsub
      rw [List.append_assoc]
      exact List.Sublist.append_left (List.Sublist.cons_cons _ (List.sublist_cons_self _ _)) _
    have hpair : [pred, b].Sublist bl :=
      List.Sublist.trans ((List.Sublist.cons_cons _ (List.Sublist.cons_cons _ (List.nil_sublist _))).trans
        (List.sublist_append_right _ _)) hsub
    have hb : b ∈ bl := hpair.subset (by simp)
    have hnext : (done ++ [pred] ++ b :: rest).Sublist bl := by rw [List.append_assoc]; exact hsub
    unfold IR.cleanupPass at h
    split at h
    · rename_i i2 hj
      cases h
      exact ⟨hjoin hpair hj hp, fun _ hr => by cases hr; exact hdrop⟩
    · split at h
      · split at h
        · cases h
        · rename_i i2 hr
          cases h
          exact ⟨hrem hb hr hp, fun _ hr => by cases hr; exact hdrop⟩
        · rename_i i2 hr
          exact ih _ _ _ _ _ h hnext (hrem hb hr hp)
      · exact ih _ _ _ _ _ h hnext hp
    · cases h

theorem cleanupLoop_induct : ∀ (fuel : Nat) (ir ir' : IR) (l l' : List Nat),
    ir.cleanupLoop fuel l = .ok (ir', l') → l.Sublist bl → P ir → P ir' ∧ l'.Sublist bl := by
  intro fuel
  induction fuel with
  | zero =>
    intro ir ir' l l' h hsub hp
    unfold IR.cleanupLoop at h
    cases h
    exact ⟨hp, hsub⟩
  | succ n ih =>
    intro ir ir' l l' h hsub hp
    unfold IR.cleanupLoop at h
    split at h
    · cases h
      exact ⟨hp, hsub⟩
    · split at h
      · cases h
      · rename_i i2 hpass
        cases h
        exact ⟨(cleanupPass_induct hjoin hrem _ _ _ _ _ _ hpass hsub hp).1, hsub⟩
      · rename_i i2 bl2 hpass
        obtain ⟨p1, s1⟩ := cleanupPass_induct hjoin hrem _ _ _ _ _ _ hpass hsub hp
        exact ih _ _ _ _ h (s1 bl2 rfl) p1

theorem cleanup_induct {ir ir' : IR} {last : Nat} (h : ir.cleanup bl = .ok (ir', last)) (hp : P ir) :
    P ir' ∧ last ∈ bl := by
  unfold IR.cleanup at h
  obtain ⟨_, h⟩ := passed_guard h nofun
  split at h
  · cases h
  rename_i ir1 bl1 hl
  obtain ⟨p1, s1⟩ := cleanupLoop_induct hjoin hrem _ _ _ _ _ hl (List.Sublist.refl _) hp
  split at h
  · cases h
  rename_i ir2 bl2 hf
  have p2 : P ir2 ∧ bl2.Sublist bl := by
    unfold IR.cleanupFirst at hf
    split at hf
    · cases hf; exact ⟨p1, s1⟩
    · rename_i first tl
      have hfirst : first ∈ bl := s1.subset List.mem_cons_self
      split at hf
      · split at hf
        · cases hf
        · rename_i hr
          cases hf
          exact ⟨hrem hfirst hr p1, (List.sublist_cons_self _ _).trans s1⟩
        · rename_i hr
          cases hf
          exact ⟨hrem hfirst hr p1, s1⟩
      · cases hf; exact ⟨p1, s1⟩
  split at h
  · split at h
    · rename_i l hl'
      cases h
      exact ⟨p2.1, p2.2.subset (List.mem_of_getLast? hl')⟩
    · cases h
  · cases h

end cleanup

theorem addOtherSection_ok {ir ir' : IR} {p : Patch} {s : PatchSect} {sid bid : Nat} {ns : List Sym}
    (h : ir.addOtherSection p s sid bid = .ok (ir', ns)) :
    ∃ (kept : List Block) (aux1 : Aux),
      kept = (if (s.blocks.getLast?.map (·.size == 0)).getD false then s.blocks.dropLast else s.blocks) ∧
      ir' = ({ ir with intervals := ir.intervals ++ [{ id := bid, sect := sid, addr := none, size := s.data.length,
                                                        bytes := s.data, symExprs := s.symExprs }],
                       blocks := ir.blocks ++ kept.map (fun b => { b with bi := some bid }), aux := aux1 } : IR).orderAppend
              sid ((kept.map (fun b => ({ b with bi := some bid } : Block))).map (·.id)) ∧
      (aux1.funcBlocks = ir.aux.funcBlocks ∧ aux1.funcEntries = ir.aux.funcEntries ∧ aux1.funcNames = ir.aux.funcNames) ∧
      ns = (if (s.blocks.getLast?.map (·.size == 0)).getD false then p.syms.map (fun y =>
          if y.ref == .block ((s.blocks.getLast?.map (·.id)).getD 0) then
            { y with ref := .block (((s.blocks.dropLast).getLast?.map (·.id)).getD 0), atEnd := true } else y)
        else p.syms) ∧
      ¬ ((s.blocks.getLast?.map (·.size == 0)).getD false && s.blocks.length == 1 &&
          p.syms.any (fun y => y.ref == .block ((s.blocks.getLast?.map (·.id)).getD 0))) = true := by
  unfold IR.addOtherSection at h
  extract_lets lastEmpty blocks lastId prevId at h
  obtain ⟨_, h⟩ := passed_guard h nofun
  obtain ⟨c2, h⟩ := passed_guard h nofun
  injection h with h; injection h with h1 h2
  exact ⟨blocks, _, rfl, h1.symm, ⟨rfl, rfl, rfl⟩, h2.symm, c2⟩

/-- the fold over the other sections: `P` may speak of the sections still to come -/
theorem addOthers_induct {p : Patch} {P : IR → List (PatchSect × Nat × Nat) → Prop}
    (hstep : ∀ {i i' : IR} {ns : List Sym} {x : PatchSect × Nat × Nat} {xs : List (PatchSect × Nat × Nat)},
      i.addOtherSection { p with syms := i.syms.filter (fun y => p.syms.any (·.id == y.id)) } x.1 x.2.1 x.2.2 = .ok (i', ns) →
      P i (x :: xs) →
      P { i' with syms := i'.syms.map (fun y => match ns.find? (·.id == y.id) with | some ny => ny | none => y) } xs)
    {ir ir' : IR} (h : ir.addOthers p = .ok ir') (hp : P ir p.others) : P ir' [] := by
  unfold IR.addOthers at h
  generalize p.others = l at h hp
  induction l generalizing ir with
  | nil => cases h; exact hp
  | cons x xs ih =>
    simp only [List.foldl_cons] at h
    split at h
    · rw [List.foldl_error _ (fun _ _ => rfl)] at h; cases h
    · rename_i i2 ns hao
      exact ih h (hstep hao hp)

/-! Whatever holds across every successful `join_blocks` and `remove_block`, and composes, holds across
the clean-up: for `R a b := π b = π a` this is a frame lemma, for `R a b := P a → P b` the
preservation of an invariant, for `R a b := a.next ≤ b.next` monotonicity.  The same for
`_add_other_section_contents`, section by section. -/

theorem cleanup_rel {R : IR → IR → Prop} (refl : ∀ a, R a a) (trans : ∀ {a b c}, R a b → R b c → R a c)
    (hj : ∀ {a b : IR} {x y : Nat}, a.joinBlocks x y = .ok b → R a b)
    (hr : ∀ {a b : IR} {x : Nat} {px r : Bool}, a.removeBlock x px = .ok (b, r) → R a b)
    {ir ir' : IR} {bl : List Nat} {last : Nat} (h : ir.cleanup bl = .ok (ir', last)) : R ir ir' :=
  (cleanup_induct (P := R ir) (fun _ hj' hp => trans hp (hj hj')) (fun _ hr' hp => trans hp (hr hr')) h (refl _)).1

theorem addOthers_rel {R : IR → IR → Prop} (refl : ∀ a, R a a) (trans : ∀ {a b c}, R a b → R b c → R a c)
    (hsyms : ∀ (i : IR) s, R i { i with syms := s }) {p : Patch}
    (step : ∀ x ∈ p.others, ∀ {i i' : IR} {q : Patch} {ns : List Sym},
      i.addOtherSection q x.1 x.2.1 x.2.2 = .ok (i', ns) → R i i')
    {ir ir' : IR} (h : ir.addOthers p = .ok ir') : R ir ir' :=
  -- the sections still to come are sections of the patch
  (addOthers_induct (P := fun x l => (∀ y ∈ l, y ∈ p.others) ∧ R ir x)
    (fun {_ _ _ x _} hao hp => ⟨fun y hy => hp.1 y (List.mem_cons_of_mem _ hy),
      trans hp.2 (trans (step x (hp.1 x List.mem_cons_self) hao) (hsyms _ _))⟩)
    h ⟨fun _ hy => hy, refl _⟩).2

theorem adoptPatchBlocks_obs {α : Sort u} (π : IR → α) (hf : FuncsFree π) (ir : IR) (p : Patch) (f : Nat) :
    π (ir.adoptPatchBlocks p f) = π ir := by
  unfold IR.adoptPatchBlocks
  refine foldl_obs π _ (fun i b => ?_) _ _
  split
  · exact ite_obs π (hf ..) rfl
  · rfl

theorem loopInsert_ok {ir ir' : IR} {func : Option Nat} {ab : Block} {a ao repl last : Nat} {p : Patch}
    (h : ir.loopInsert func ab a ao repl p = .ok (ir', last)) :
    ∃ ir1, ir.insert a ao repl p = .ok (ir1, last) ∧ (ir' = ir1 ∨ ∃ f, ir' = ir1.adoptPatchBlocks p f) := by
  unfold IR.loopInsert at h
  split at h
  · cases h
  · rename_i ir1 l1 hins
    split at h
    · split at h
      · cases h
        exact ⟨ir1, hins, Or.inr ⟨_, rfl⟩⟩
      · cases h
        exact ⟨_, hins, Or.inl rfl⟩
    · cases h
      exact ⟨_, hins, Or.inl rfl⟩

theorem applyMods_cons_ok {origOff : Nat} {func : Option Nat} {ir ir' : IR} {actual : Option Nat} {total : Int}
    {m : Mod} {ms : List Mod} (h : IR.applyMods origOff func ir actual total (m :: ms) = .ok ir') :
    ∃ a ab, actual = some a ∧ ir.block? a = some ab ∧ ¬ actualOffset origOff ab total m.off < 0 ∧
      ((∃ o repl p ir1 last, m = .ins o repl p ∧
          ir.loopInsert func ab a (actualOffset origOff ab total o).toNat repl p = .ok (ir1, last) ∧
          IR.applyMods origOff func ir1 (some last) (total + (p.text.data.length : Int) - (repl : Int)) ms = .ok ir') ∨
       (∃ o len px ir1 r, m = .del o len px ∧
          ir.delete a (actualOffset origOff ab total o).toNat len px = .ok (ir1, r) ∧
          IR.applyMods origOff func ir1 r (total - (len : Int)) ms = .ok ir')) := by
  cases actual with
  | none => unfold IR.applyMods at h; cases h
  | some a =>
    unfold IR.applyMods at h
    split at h
    · cases h
    rename_i ab hab
    extract_lets ao at h
    obtain ⟨hao, h⟩ := passed_guard h nofun
    refine ⟨a, ab, rfl, hab, hao, ?_⟩
    cases m with
    | ins o repl p =>
      dsimp only at h
      split at h
      · cases h
      · rename_i ir1 last hl
        exact Or.inl ⟨o, repl, p, ir1, last, rfl, hl, h⟩
    | del o len px =>
      dsimp only at h
      split at h
      · cases h
      · rename_i ir1 r hd
        exact Or.inr ⟨o, len, px, ir1, r, rfl, hd, h⟩

theorem applyAll_cons_ok {ir ir' : IR} {r : BlockMods} {rest : List BlockMods} (h : ir.applyAll (r :: rest) = .ok ir') :
    ∃ blk ir1, ir.block? r.block = some blk ∧ ir.applyMods blk.off r.func (some r.block) 0 r.mods = .ok ir1 ∧
      ir1.applyAll rest = .ok ir' := by
  unfold IR.applyAll at h
  split at h
  · cases h
  · rename_i blk hb
    split at h
    · cases h
    · rename_i ir1 hm
      exact ⟨blk, ir1, hb, hm, h⟩

end GtirbVerif.IR
