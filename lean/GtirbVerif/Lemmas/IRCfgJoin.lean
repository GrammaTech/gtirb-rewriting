import GtirbVerif.Lemmas.IRCfg

/-!
# No edge is left on a block that left the module

After `join_blocks(block1, block2)` (code blocks) no edge of the CFG starts or ends at `block2`; after
`remove_block` has removed a code block no edge ends at it and, when no return edge left it, none starts
at it.  The edge loops are passes over a snapshot (`bulkEdges`, Lemmas/IRCfg.lean): a pass over all the
edges that have a property, each dropped or replaced by one that has not, leaves none that has.
-/
namespace GtirbVerif.IR
open GtirbVerif.Adt (CfgNode Label Edge)

theorem joinCode_no_edge_on_block2 (ir : IR) (b1 : Block) (id2 s2 : Nat) (hne : b1.id ≠ id2) :
    ∀ e ∈ (ir.joinCode b1 id2 s2).cfg, e.src ≠ .block id2 ∧ e.dst ≠ .block id2 := by
  unfold IR.joinCode
  extract_lets flowsIn i1 i2 i3
  rw [removeFunctionBlock_cfg]
  have hb1 : CfgNode.block b1.id ≠ .block id2 := fun h => hne (CfgNode.block.inj h)
  -- a pass over all in-edges of block2, retargeted to block1 or dropped: nothing ends at block2
  have hin : ∀ e ∈ i2.cfg, e.dst ≠ .block id2 := by
    unfold i2
    split
    · rw [foldl_updateEdge_bulk]
      exact bulkEdges_clears _ (fun e => e.dst = .block id2) (mem_inEdges i1 id2) (fun _ _ h => by cases h; exact hb1)
    · rw [foldl_discard_bulk]
      exact bulkEdges_clears _ (fun e => e.dst = .block id2) (mem_inEdges i1 id2) (fun _ _ h => by cases h)
  -- then a pass over all its out-edges, dropped or leaving from block1; targets are not changed
  unfold i3
  split
  · rw [foldl_discard_bulk]
    intro e he
    refine ⟨bulkEdges_clears _ (fun e => e.src = .block id2) (mem_outEdges i2 id2) (fun _ _ h => by cases h) e he, ?_⟩
    rcases bulkEdges_sub _ _ _ _ he with h | ⟨_, _, h⟩
    · exact hin e h
    · cases h
  · rw [foldl_updateEdge_bulk]
    intro e he
    refine ⟨bulkEdges_clears _ (fun e => e.src = .block id2) (mem_outEdges i2 id2) (fun _ _ h => by cases h; exact hb1) e he, ?_⟩
    rcases bulkEdges_sub _ _ _ _ he with h | ⟨x, hx, h⟩
    · exact hin e h
    · cases h
      exact hin x ((mem_outEdges i2 id2 x).mp hx).1

theorem joinBlocks_no_edge_on_block2 {ir ir' : IR} {id1 id2 : Nat} {b1 b2 : Block}
    (h : ir.joinBlocks id1 id2 = .ok ir') (h1 : ir.block? id1 = some b1) (h2 : ir.block? id2 = some b2)
    (hne : id1 ≠ id2) (hcode : b2.isCode = true) :
    ∀ e ∈ ir'.cfg, e.src ≠ .block id2 ∧ e.dst ≠ .block id2 := by
  obtain ⟨_, sect, _, rfl⟩ := joinBlocks_ok h h1 h2
  rw [setBlock_cfg, orderRemove_cfg, setBlock_cfg, joinTables_cfg, hcode, cond_true]
  exact joinCode_no_edge_on_block2 _ b1 id2 b2.size (by rw [block?_id h1]; exact hne)

theorem removeOutEdges_edges (P : Edge → Prop) (hP : ∀ e : Edge, (∃ p, e.dst = .proxy p) → P e)
    (ir : IR) (blk : Block) (h : ∀ e ∈ ir.cfg, P e) : ∀ e ∈ (ir.removeOutEdges blk).cfg, P e := by
  refine removeOutEdges_induct (P := fun x => ∀ e ∈ x.cfg, P e)
    (fun x _ hx e he => hx e ((mem_cfgDiscard _ _ _).mp he).1) (fun _ x' _ _ _ hx' e he => ?_) ir blk h
  rcases (mem_cfgAdd _ _ _).mp he with he | rfl
  · exact hx' e he
  · exact hP _ ⟨_, rfl⟩

/-- `_retarget_incoming_edges` of a code block is one pass over its in-edges, all retargeted to the same node: the
proxy, else the next block if that is code, else a fresh proxy -/
theorem removeInEdges_cfg (ir : IR) (blk : Block) (proxy next : Option Nat) (nc : Bool) (hcode : blk.isCode = true) :
    ∃ t : CfgNode, ((∃ p, t = .proxy p) ∨ (proxy = none ∧ nc = true ∧ t = .block (next.getD 0))) ∧
      (ir.removeInEdges blk proxy next nc).cfg = bulkEdges (fun e => some (updDst e t)) ir.cfg (ir.inEdges blk.id) := by
  unfold IR.removeInEdges
  split
  · -- no in-edge: the pass is over nothing
    rename_i hcond
    rw [hcode] at hcond
    rw [show ir.inEdges blk.id = [] by simpa using hcond]
    exact ⟨.proxy 0, Or.inl ⟨0, rfl⟩, rfl⟩
  · split
    · exact ⟨_, Or.inl ⟨_, rfl⟩, foldl_updateEdge_bulk _ _ ir⟩
    · split
      · rename_i hnc
        exact ⟨_, Or.inr ⟨rfl, hnc, rfl⟩, foldl_updateEdge_bulk _ _ ir⟩
      · exact ⟨_, Or.inl ⟨_, rfl⟩,
          foldl_updateEdge_bulk _ _ { ir with next := ir.next + 1, proxies := ir.proxies ++ [ir.next] }⟩

theorem removeInEdges_no_in_edge (ir : IR) (blk : Block) (proxy next : Option Nat) (nc : Bool)
    (hcode : blk.isCode = true) (hnext : proxy = none → nc = true → next.getD 0 ≠ blk.id) :
    ∀ e ∈ (ir.removeInEdges blk proxy next nc).cfg, e.dst ≠ .block blk.id := by
  obtain ⟨t, ht, hc⟩ := removeInEdges_cfg ir blk proxy next nc hcode
  rw [hc]
  refine bulkEdges_clears _ (fun e => e.dst = .block blk.id) (mem_inEdges ir blk.id) (fun _ _ h hd => ?_)
  cases h
  rcases ht with ⟨p, rfl⟩ | ⟨hp, hnc, rfl⟩
  · cases hd
  · exact hnext hp hnc (CfgNode.block.inj hd)

theorem removeInEdges_edges (ir : IR) (blk : Block) (proxy next : Option Nat) (nc : Bool) (hcode : blk.isCode = true) :
    ∀ e' ∈ (ir.removeInEdges blk proxy next nc).cfg, e' ∈ ir.cfg ∨ ∃ e ∈ ir.cfg, ∃ t, e' = updDst e t := by
  obtain ⟨t, _, hc⟩ := removeInEdges_cfg ir blk proxy next nc hcode
  intro e' he'
  rw [hc] at he'
  exact (bulkEdges_sub _ _ _ _ he').imp_right fun ⟨e, he, hfe⟩ =>
    ⟨e, ((mem_inEdges ir blk.id e).mp he).1, t, (Option.some.inj hfe).symm⟩

theorem removeFunctions_cfg (x : IR) (blk : Block) (n : Option Nat) (nc : Bool) : (x.removeFunctions blk n nc).cfg = x.cfg :=
  removeFunctions_obs _ (fun _ _ _ _ _ => rfl) ..

theorem removeEntrypoints_cfg (x : IR) (blk : Block) (n : Option Nat) (nc : Bool) : (x.removeEntrypoints blk n nc).cfg = x.cfg :=
  removeEntrypoints_obs _ (fun _ _ _ _ _ _ => rfl) ..

theorem withProxy_cfg (x : IR) (t : Bool) : (x.withProxy t).cfg = x.cfg := withProxy_obs _ (fun _ _ _ => rfl) ..

/-- `hnext`: the next block the ordering names is another block - `Lemmas/IRSymClosed.lean` derives this
from the ordering invariant -/
theorem removeBlock_no_in_edge {ir ir' : IR} {b : Nat} {px : Bool} {blk : Block}
    (h : ir.removeBlock b px = .ok (ir', true)) (hb : ir.block? b = some blk) (hcode : blk.isCode = true)
    (hnext : px = false → (ir.adjacent blk).2.getD 0 ≠ b) :
    ∀ e ∈ ir'.cfg, e.dst ≠ .block b := by
  obtain ⟨sect, _, _, rfl⟩ := removeBlock_ok h hb
  rw [cond_true, setBlock_cfg, orderRemove_cfg, removeStages_true, removeCfi_cfg, removeAuxEntries_cfg, ← block?_id hb]
  -- the in-edges are retargeted first; what follows only drops edges or adds edges to proxies
  apply removeOutEdges_edges (fun e => e.dst ≠ .block blk.id)
  · intro e ⟨p, hp⟩ hd; rw [hp] at hd; cases hd
  · rw [removeEntrypoints_cfg, removeFunctions_cfg]
    apply removeInEdges_no_in_edge _ blk _ _ _ hcode
    intro hp _
    rw [block?_id hb]
    cases px
    · exact hnext rfl
    · cases hp

def NoRet (cfg : List Edge) (b : Nat) : Prop := ∀ e ∈ cfg, e.src = .block b → Edge.isRet e = false

theorem removeReturnEdgesFromCallee_src (ir : IR) (ce : Edge) (ft : List Nat) (b : Nat) (hnr : NoRet ir.cfg b) :
    ∀ e ∈ (ir.removeReturnEdgesFromCallee ce ft).cfg, e.src = .block b → e ∈ ir.cfg := by
  refine removeReturnEdgesFromCallee_induct (P := fun x => ∀ e ∈ x.cfg, e.src = .block b → e ∈ ir.cfg)
    (fun x _ hx e he => hx e ((mem_cfgDiscard _ _ _).mp he).1) (fun x x' fb hx hne hx' e he hs => ?_) ir ce ft (fun _ he _ => he)
  rcases (mem_cfgAdd _ _ _).mp he with he | rfl
  · exact hx' e he hs
  · -- the new edge leaves a block that had a return edge when the loop reached it: not `b`
    obtain ⟨e0, he0⟩ := List.exists_mem_of_ne_nil _ hne
    obtain ⟨h1, h2, h3⟩ := (mem_returnEdgesOf x fb e0).mp he0
    rw [CfgNode.block.inj hs] at h3
    rw [hnr e0 (hx e0 h1 h3) h3] at h2
    cases h2

theorem removeOutEdges_no_out_edge (ir : IR) (blk : Block) (hcode : blk.isCode = true) (hnr : NoRet ir.cfg blk.id) :
    ∀ e ∈ (ir.removeOutEdges blk).cfg, e.src ≠ .block blk.id := by
  unfold IR.removeOutEdges
  rw [hcode]
  simp only [Bool.not_true, Bool.false_eq_true, if_false]
  have key : ∀ (ft : List Nat) (l : List Edge) (x : IR), (∀ e ∈ x.cfg, e.src = .block blk.id → e ∈ l ∧ e ∈ ir.cfg) →
      ∀ e ∈ (l.foldl (fun ir e =>
        let i := if Edge.isCall e then ir.removeReturnEdgesFromCallee e ft else ir
        { i with cfg := cfgDiscard i.cfg e }) x).cfg, e.src ≠ .block blk.id := by
    intro ft l
    induction l with
    | nil => intro x hx e he hs; exact absurd (hx e he hs).1 (by simp)
    | cons a l ih =>
      intro x hx
      simp only [List.foldl_cons]
      apply ih
      intro e he hs
      have he' := (mem_cfgDiscard _ _ _).mp he
      have hex : e ∈ x.cfg := by
        split at he'
        · have hnrx : NoRet x.cfg blk.id := fun e0 h0 hs0 => hnr e0 (hx e0 h0 hs0).2 hs0
          exact removeReturnEdgesFromCallee_src x a _ blk.id hnrx e he'.1 hs
        · exact he'.1
      obtain ⟨h1, h2⟩ := hx e hex hs
      refine ⟨?_, h2⟩
      rcases List.mem_cons.mp h1 with h1 | h1
      · exact absurd h1 he'.2
      · exact h1
  apply key (ir.fallTargets blk.id)
  intro e he hs
  exact ⟨(mem_outEdges ir blk.id e).mpr ⟨he, hs⟩, he⟩

/-- for a code block that no return edge leaves: a block that both calls and returns for the callee's
function is the one case in which the code, like the model, adds a return edge behind its own back -/
theorem removeBlock_no_out_edge {ir ir' : IR} {b : Nat} {px : Bool} {blk : Block}
    (h : ir.removeBlock b px = .ok (ir', true)) (hb : ir.block? b = some blk) (hcode : blk.isCode = true)
    (hnr : NoRet ir.cfg b) : ∀ e ∈ ir'.cfg, e.src ≠ .block b := by
  obtain ⟨sect, _, _, rfl⟩ := removeBlock_ok h hb
  rw [cond_true, setBlock_cfg, orderRemove_cfg, removeStages_true, removeCfi_cfg, removeAuxEntries_cfg]
  rw [← block?_id hb] at hnr ⊢
  apply removeOutEdges_no_out_edge _ blk hcode
  -- retargeting the in-edges gives the block no return edge
  intro e he hs
  rw [removeEntrypoints_cfg, removeFunctions_cfg] at he
  rcases removeInEdges_edges _ blk _ _ _ hcode e he with h0 | ⟨e0, h0, t, rfl⟩
  · exact hnr e (by rw [← withProxy_cfg ir px]; exact h0) hs
  · exact hnr e0 (by rw [← withProxy_cfg ir px]; exact h0) hs

end GtirbVerif.IR
