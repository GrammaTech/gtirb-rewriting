/-!
# Stable insertion sort by a Boolean order

`Listing.sortOn` (the specifications), `Store.sortK` (`resolve_offsets`) and `CfiEval.sortBy` (`sorted(…)` in
`cfi_eval.py`) are this sort, each for its order.
With an order antisymmetric on the members its result is the only sorted permutation, so it does not depend
on the order in which the input is listed.
-/
namespace GtirbVerif.Sorting
variable {α : Type _} (le : α → α → Bool)

def insert (x : α) : List α → List α
  | [] => [x]
  | y :: ys => if le x y then x :: y :: ys else y :: insert x ys

def sort (l : List α) : List α := l.foldr (insert le) []

/-- the models and the specification each write `insert` out again -/
theorem insert_unique (ins : α → List α → List α) (hnil : ∀ x, ins x [] = [x])
    (hcons : ∀ x y ys, ins x (y :: ys) = if le x y then x :: y :: ys else y :: ins x ys) : ins = insert le := by
  funext x l
  induction l with
  | nil => exact hnil x
  | cons y ys ih => rw [hcons, insert, ih]

theorem insert_perm (x : α) (l : List α) : (insert le x l).Perm (x :: l) := by
  induction l with
  | nil => exact .refl _
  | cons y ys ih =>
    unfold insert
    split
    · exact .refl _
    · exact (ih.cons y).trans (.swap x y ys)

theorem sort_perm (l : List α) : (sort le l).Perm l := by
  induction l with
  | nil => exact .refl _
  | cons x xs ih => exact (insert_perm le x _).trans (ih.cons x)

variable {le} (total : ∀ a b, le a b || le b a) (trans : ∀ a b c, le a b → le b c → le a c)
include total trans

theorem insert_sorted (x : α) (l : List α) (h : l.Pairwise (le · ·)) : (insert le x l).Pairwise (le · ·) := by
  induction l with
  | nil => exact List.pairwise_singleton _ _
  | cons y ys ih =>
    have ⟨hy, hys⟩ := List.pairwise_cons.mp h
    unfold insert
    by_cases hxy : le x y = true
    · rw [if_pos hxy]
      refine List.pairwise_cons.mpr ⟨fun z hz => ?_, h⟩
      rcases List.mem_cons.mp hz with rfl | hz
      · exact hxy
      · exact trans _ _ _ hxy (hy z hz)
    · rw [if_neg hxy]
      have hyx : le y x = true := by simpa [hxy] using total x y
      refine List.pairwise_cons.mpr ⟨fun z hz => ?_, ih hys⟩
      rcases List.mem_cons.mp ((insert_perm le x ys).mem_iff.mp hz) with rfl | hz
      · exact hyx
      · exact hy z hz

theorem sort_sorted (l : List α) : (sort le l).Pairwise (le · ·) := by
  induction l with
  | nil => exact .nil
  | cons x xs ih => exact insert_sorted total trans x _ ih

theorem sort_eq_of_perm {l₁ l₂ : List α} (hp : l₁.Perm l₂)
    (antisymm : ∀ a ∈ l₁, ∀ b ∈ l₁, le a b → le b a → a = b) : sort le l₁ = sort le l₂ :=
  ((sort_perm le l₁).trans (hp.trans (sort_perm le l₂).symm)).eq_of_pairwise
    (fun a b ha hb => antisymm a ((sort_perm le l₁).mem_iff.mp ha) b
      (hp.mem_iff.mpr ((sort_perm le l₂).mem_iff.mp hb)))
    (sort_sorted total trans l₁) (sort_sorted total trans l₂)

end GtirbVerif.Sorting
