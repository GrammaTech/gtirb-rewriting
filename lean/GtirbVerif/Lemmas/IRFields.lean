import GtirbVerif.Lemmas.IRTouch
import GtirbVerif.Lemmas.IROk
import GtirbVerif.Lemmas.IRStages

/-!
# Field by field: which steps of the IR model leave it alone

One section per field (or bundle of fields) of the IR.  For a step that is a record update the fact is
`rfl`, stated all the same, for `rw`: a `show (IR.removeStages _ _ _ _ _ _ _).aux = _` in its place makes the
unifier unfold the operation around metavariables.  For a fold or a case distinction it is the step's
`step_obs` (Lemmas/IRTouch.lean) at that field; for `split_block`, `join_blocks`, `remove_block` and the
clean-up it is read off the chain of steps (Lemmas/IROk.lean, Lemmas/IRStages.lean).
-/
namespace GtirbVerif.IR
open GtirbVerif.Adt (CfgNode Label Edge)

/-! ### `intervals` -/

@[simp] theorem setBlock_intervals (ir : IR) (b : Block) : (ir.setBlock b).intervals = ir.intervals := rfl
@[simp] theorem updateEdge_intervals (ir : IR) (e e' : Edge) : (ir.updateEdge e e').intervals = ir.intervals := rfl
@[simp] theorem addFunctionBlock_intervals (ir : IR) (b f : Nat) : (ir.addFunctionBlock b f).intervals = ir.intervals := rfl
@[simp] theorem orderInsertAfter_intervals (ir : IR) (s a : Nat) (bs : List Nat) :
    (ir.orderInsertAfter s a bs).intervals = ir.intervals := rfl
@[simp] theorem orderRemove_intervals (ir : IR) (s b : Nat) : (ir.orderRemove s b).intervals = ir.intervals := rfl
@[simp] theorem orderAppend_intervals (ir : IR) (s : Nat) (bs : List Nat) :
    (ir.orderAppend s bs).intervals = ir.intervals :=
  orderAppend_obs _ (fun _ _ => rfl) ..
@[simp] theorem splitSyms_intervals (ir : IR) (b nb : Nat) : (ir.splitSyms b nb).intervals = ir.intervals := rfl
@[simp] theorem splitBlocks_intervals (ir : IR) (blk : Block) (nb off : Nat) :
    (ir.splitBlocks blk nb off).intervals = ir.intervals := rfl
@[simp] theorem splitTables_intervals (ir : IR) (b nb off : Nat) :
    (ir.splitTables b nb off).intervals = ir.intervals := rfl
@[simp] theorem addFall_intervals (ir : IR) (a b : Nat) : (ir.addFall a b).intervals = ir.intervals := rfl
@[simp] theorem joinSyms_intervals (ir : IR) (b1 : Block) (id2 : Nat) :
    (ir.joinSyms b1 id2).intervals = ir.intervals := rfl
@[simp] theorem joinTables_intervals (ir : IR) (b1 : Block) (id2 : Nat) (c : Bool) :
    (ir.joinTables b1 id2 c).intervals = ir.intervals := rfl
@[simp] theorem removeSyms_intervals (ir : IR) (b : Nat) (t : Referent × Bool) :
    (ir.removeSyms b t).intervals = ir.intervals := rfl
@[simp] theorem removeAuxEntries_intervals (ir : IR) (blk : Block) :
    (ir.removeAuxEntries blk).intervals = ir.intervals := rfl
@[simp] theorem removeCfi_intervals (ir : IR) (b : Nat) (c : List CfiDir) (p n : Option Nat) (pc nc : Bool) :
    (ir.removeCfi b c p n pc nc).intervals = ir.intervals := rfl

theorem intervals_graphFree : GraphFree IR.intervals := fun _ _ _ _ => rfl
theorem intervals_funcsFree : FuncsFree IR.intervals := fun _ _ _ _ _ => rfl

@[simp] theorem removeOutEdges_intervals (ir : IR) (blk : Block) :
    (ir.removeOutEdges blk).intervals = ir.intervals := removeOutEdges_obs _ intervals_graphFree ..
@[simp] theorem connectEmptyTail_intervals (ir : IR) (t : Nat) : (ir.connectEmptyTail t).intervals = ir.intervals :=
  connectEmptyTail_obs _ intervals_graphFree.cfg ..

theorem splitBlock_intervals {ir ir' : IR} {b off nb : Nat} {added : Bool}
    (h : ir.splitBlock b off = .ok (ir', nb, added)) : ir'.intervals = ir.intervals := by
  obtain ⟨blk, sect, _, _, _, _, r, hr, _, rfl⟩ := splitBlock_ok h
  rw [orderInsertAfter_intervals, splitTables_intervals, hr]
  exact splitCodeIf_obs _ intervals_graphFree.cfg intervals_funcsFree ..

theorem joinBlocks_intervals {ir ir' : IR} {a b : Nat} (h : ir.joinBlocks a b = .ok ir') :
    ir'.intervals = ir.intervals := by
  obtain ⟨b1, b2, h1, h2⟩ := joinBlocks_blocks h
  obtain ⟨_, sect, _, rfl⟩ := joinBlocks_ok h h1 h2
  rw [setBlock_intervals, orderRemove_intervals, setBlock_intervals, joinTables_intervals]
  exact joinCodeIf_obs _ intervals_graphFree.cfg intervals_funcsFree ..

@[simp] theorem removeStages_intervals (ir : IR) (blk : Block) (t c : Bool) (px p n : Option Nat) :
    (ir.removeStages blk t c px p n).intervals = ir.intervals := by
  cases c
  · rw [removeStages_false, removeCfi_intervals, removeAuxEntries_intervals, removeOutEdges_intervals]
  · rw [removeStages_true, removeCfi_intervals, removeAuxEntries_intervals, removeOutEdges_intervals,
      removeEntrypoints_obs IR.intervals (fun _ _ _ _ _ _ => rfl), removeFunctions_obs _ intervals_funcsFree,
      removeInEdges_obs _ intervals_graphFree, removeSyms_intervals]

theorem removeBlock_intervals {ir ir' : IR} {b : Nat} {px r : Bool}
    (h : ir.removeBlock b px = .ok (ir', r)) : ir'.intervals = ir.intervals := by
  obtain ⟨blk, hb⟩ := removeBlock_block h
  obtain ⟨sect, _, _, rfl⟩ := removeBlock_ok h hb
  cases r
  · rw [cond_false, keepEmpty_obs IR.intervals intervals_graphFree, setBlock_intervals, removeStages_intervals]
    exact withProxy_obs _ intervals_graphFree.ids ..
  · rw [cond_true, setBlock_intervals, orderRemove_intervals, removeStages_intervals]
    exact withProxy_obs _ intervals_graphFree.ids ..

theorem cleanup_intervals {ir ir' : IR} {bl : List Nat} {last : Nat}
    (h : ir.cleanup bl = .ok (ir', last)) : ir'.intervals = ir.intervals :=
  cleanup_rel (R := fun a b => b.intervals = a.intervals) (fun _ => rfl) (fun h1 h2 => h2.trans h1)
    joinBlocks_intervals removeBlock_intervals h

/-! ### `IR.core` -/

/-- everything of the IR except the CFG, the function tables, the block ordering and the
fresh-id counter / proxy set: what the pure CFG and function-membership steps never touch -/
structure Core where
  sections : List (Nat × String)
  intervals : List Interval
  blocks : List Block
  syms : List Sym
  entry : Option Nat
  alignment : List (Nat × Nat)
  omaps : List (String × List (Elem × Nat × String))
  cfi : List (Nat × Nat × List CfiDir)
  encodings : List (Nat × String)
  types : List (Nat × String)
  profile : List (Nat × String)
  sccs : List (Nat × String)
  peSafeSeh : List Nat
  elfInit : Option Nat
  elfFini : Option Nat
  elfSymInfo : List (Nat × String)

def IR.core (ir : IR) : Core :=
  { sections := ir.sections, intervals := ir.intervals, blocks := ir.blocks, syms := ir.syms, entry := ir.entry,
    alignment := ir.aux.alignment, omaps := ir.aux.omaps, cfi := ir.aux.cfi, encodings := ir.aux.encodings,
    types := ir.aux.types, profile := ir.aux.profile, sccs := ir.aux.sccs, peSafeSeh := ir.aux.peSafeSeh,
    elfInit := ir.aux.elfInit, elfFini := ir.aux.elfFini, elfSymInfo := ir.aux.elfSymInfo }

theorem core_syms {a b : IR} (h : a.core = b.core) : a.syms = b.syms := congrArg Core.syms h
theorem core_blocks {a b : IR} (h : a.core = b.core) : a.blocks = b.blocks := congrArg Core.blocks h
theorem core_omaps {a b : IR} (h : a.core = b.core) : a.aux.omaps = b.aux.omaps := congrArg Core.omaps h
theorem core_cfi {a b : IR} (h : a.core = b.core) : a.aux.cfi = b.aux.cfi := congrArg Core.cfi h
theorem core_alignment {a b : IR} (h : a.core = b.core) : a.aux.alignment = b.aux.alignment := congrArg Core.alignment h
theorem core_intervals {a b : IR} (h : a.core = b.core) : a.intervals = b.intervals := congrArg Core.intervals h

theorem core_graphFree : GraphFree IR.core := fun _ _ _ _ => rfl
theorem core_funcsFree : FuncsFree IR.core := fun _ _ _ _ _ => rfl

@[simp] theorem updateEdge_core (ir : IR) (e e' : Edge) : (ir.updateEdge e e').core = ir.core := rfl
@[simp] theorem addFunctionBlock_core (ir : IR) (b f : Nat) : (ir.addFunctionBlock b f).core = ir.core := rfl
@[simp] theorem orderInsertAfter_core (ir : IR) (s a : Nat) (bs : List Nat) :
    (ir.orderInsertAfter s a bs).core = ir.core := rfl
@[simp] theorem orderRemove_core (ir : IR) (s b : Nat) : (ir.orderRemove s b).core = ir.core := rfl
@[simp] theorem addFall_core (ir : IR) (a b : Nat) : (ir.addFall a b).core = ir.core := rfl

@[simp] theorem removeFunctionBlock_core (ir : IR) (b : Nat) : (ir.removeFunctionBlock b).core = ir.core :=
  removeFunctionBlock_obs _ core_funcsFree ..
@[simp] theorem withProxy_core (ir : IR) (t : Bool) : (ir.withProxy t).core = ir.core :=
  withProxy_obs _ core_graphFree.ids ..
@[simp] theorem splitCode_core (ir : IR) (b nb : Nat) (e : Bool) : (ir.splitCode b nb e).1.core = ir.core :=
  splitCode_obs _ core_graphFree.cfg core_funcsFree ..
@[simp] theorem joinCode_core (ir : IR) (b1 : Block) (id2 s2 : Nat) : (ir.joinCode b1 id2 s2).core = ir.core :=
  joinCode_obs _ core_graphFree.cfg core_funcsFree ..
@[simp] theorem removeInEdges_core (ir : IR) (blk : Block) (p n : Option Nat) (nc : Bool) :
    (ir.removeInEdges blk p n nc).core = ir.core := removeInEdges_obs _ core_graphFree ..
@[simp] theorem removeFunctions_core (ir : IR) (blk : Block) (n : Option Nat) (nc : Bool) :
    (ir.removeFunctions blk n nc).core = ir.core := removeFunctions_obs _ core_funcsFree ..
@[simp] theorem removeOutEdges_core (ir : IR) (blk : Block) : (ir.removeOutEdges blk).core = ir.core :=
  removeOutEdges_obs _ core_graphFree ..
@[simp] theorem connectEmptyTail_core (ir : IR) (t : Nat) : (ir.connectEmptyTail t).core = ir.core :=
  connectEmptyTail_obs _ core_graphFree.cfg ..

/-! ### `next`, the id counter -/

@[simp] theorem setBlock_next (ir : IR) (b : Block) : (ir.setBlock b).next = ir.next := rfl
@[simp] theorem updateEdge_next (ir : IR) (e e' : Edge) : (ir.updateEdge e e').next = ir.next := rfl
@[simp] theorem addFunctionBlock_next (ir : IR) (b f : Nat) : (ir.addFunctionBlock b f).next = ir.next := rfl
@[simp] theorem orderInsertAfter_next (ir : IR) (s a : Nat) (bs : List Nat) :
    (ir.orderInsertAfter s a bs).next = ir.next := rfl
@[simp] theorem orderRemove_next (ir : IR) (s b : Nat) : (ir.orderRemove s b).next = ir.next := rfl
@[simp] theorem orderAppend_next (ir : IR) (s : Nat) (bs : List Nat) :
    (ir.orderAppend s bs).next = ir.next :=
  orderAppend_obs _ (fun _ _ => rfl) ..
@[simp] theorem splitSyms_next (ir : IR) (b nb : Nat) : (ir.splitSyms b nb).next = ir.next := rfl
@[simp] theorem splitTables_next (ir : IR) (b nb off : Nat) :
    (ir.splitTables b nb off).next = ir.next := rfl
@[simp] theorem addFall_next (ir : IR) (a b : Nat) : (ir.addFall a b).next = ir.next := rfl
@[simp] theorem joinSyms_next (ir : IR) (b1 : Block) (id2 : Nat) :
    (ir.joinSyms b1 id2).next = ir.next := rfl
@[simp] theorem joinTables_next (ir : IR) (b1 : Block) (id2 : Nat) (c : Bool) :
    (ir.joinTables b1 id2 c).next = ir.next := rfl
@[simp] theorem removeSyms_next (ir : IR) (b : Nat) (t : Referent × Bool) :
    (ir.removeSyms b t).next = ir.next := rfl
@[simp] theorem removeAuxEntries_next (ir : IR) (blk : Block) :
    (ir.removeAuxEntries blk).next = ir.next := rfl
@[simp] theorem removeCfi_next (ir : IR) (b : Nat) (c : List CfiDir) (p n : Option Nat) (pc nc : Bool) :
    (ir.removeCfi b c p n pc nc).next = ir.next := rfl

theorem next_cfgFree : CfgFree IR.next := fun _ _ => rfl
theorem next_funcsFree : FuncsFree IR.next := fun _ _ _ _ _ => rfl

@[simp] theorem splitCode_next (ir : IR) (b nb : Nat) (e : Bool) : (ir.splitCode b nb e).1.next = ir.next :=
  splitCode_obs _ next_cfgFree next_funcsFree ..
@[simp] theorem removeFunctions_next (ir : IR) (blk : Block) (n : Option Nat) (nc : Bool) :
    (ir.removeFunctions blk n nc).next = ir.next := removeFunctions_obs _ next_funcsFree ..
@[simp] theorem removeEntrypoints_next (ir : IR) (blk : Block) (n : Option Nat) (nc : Bool) :
    (ir.removeEntrypoints blk n nc).next = ir.next := removeEntrypoints_obs _ (fun _ _ _ _ _ _ => rfl) ..
@[simp] theorem connectEmptyTail_next (ir : IR) (t : Nat) : (ir.connectEmptyTail t).next = ir.next :=
  connectEmptyTail_obs _ next_cfgFree ..

theorem removeOutEdges_next_le (ir : IR) (blk : Block) : ir.next ≤ (ir.removeOutEdges blk).next :=
  removeOutEdges_induct (P := fun x => ir.next ≤ x.next) (fun _ _ h => h) (fun _ _ _ _ _ h => Nat.le_succ_of_le h)
    ir blk (Nat.le_refl _)

theorem removeInEdges_next_le (ir : IR) (blk : Block) (p n : Option Nat) (nc : Bool) :
    ir.next ≤ (ir.removeInEdges blk p n nc).next := by
  unfold IR.removeInEdges
  split
  · exact Nat.le_refl _
  · split
    · rw [foldl_obs IR.next _ (by intro i e; rfl)]; exact Nat.le_refl _
    · split
      · rw [foldl_obs IR.next _ (by intro i e; rfl)]; exact Nat.le_refl _
      · simp only []
        rw [foldl_obs IR.next _ (by intro i e; rfl)]
        exact Nat.le_succ _

theorem keepEmpty_next_le (ir : IR) (blk : Block) : ir.next ≤ (ir.keepEmpty blk).next := by
  unfold IR.keepEmpty; simp only []; split
  · exact Nat.le_succ _
  · exact Nat.le_refl _

theorem withProxy_next_le (ir : IR) (t : Bool) : ir.next ≤ (ir.withProxy t).next := by
  unfold IR.withProxy; split
  · exact Nat.le_succ _
  · exact Nat.le_refl _

theorem removeStages_next_le (ir : IR) (blk : Block) (t c : Bool) (px p n : Option Nat) :
    ir.next ≤ (ir.removeStages blk t c px p n).next := by
  cases c
  · rw [removeStages_false, removeCfi_next, removeAuxEntries_next]
    exact removeOutEdges_next_le _ _
  · rw [removeStages_true, removeCfi_next, removeAuxEntries_next]
    refine Nat.le_trans ?_ (removeOutEdges_next_le _ _)
    rw [removeEntrypoints_next, removeFunctions_next]
    exact removeInEdges_next_le (ir.removeSyms _ _) _ _ _ _

theorem removeBlock_next_le {ir ir' : IR} {b : Nat} {px r : Bool}
    (h : ir.removeBlock b px = .ok (ir', r)) : ir.next ≤ ir'.next := by
  obtain ⟨blk, hb⟩ := removeBlock_block h
  obtain ⟨sect, _, _, rfl⟩ := removeBlock_ok h hb
  have hs := fun c => Nat.le_trans (withProxy_next_le ir px)
    (removeStages_next_le (ir.withProxy px) blk px c (if px then some ir.next else none) (ir.adjacent blk).1 (ir.adjacent blk).2)
  cases r
  · rw [cond_false]
    exact Nat.le_trans (hs false) (keepEmpty_next_le _ _)
  · rw [cond_true, setBlock_next, orderRemove_next]
    exact hs true

theorem splitBlock_next {ir ir' : IR} {b off nb : Nat} {added : Bool}
    (h : ir.splitBlock b off = .ok (ir', nb, added)) : ir'.next = ir.next + 1 := by
  obtain ⟨blk, sect, _, _, _, rfl, r, hr, _, rfl⟩ := splitBlock_ok h
  rw [orderInsertAfter_next, splitTables_next, hr]
  exact splitCodeIf_obs IR.next next_cfgFree next_funcsFree ..

theorem joinBlocks_next {ir ir' : IR} {a b : Nat} (h : ir.joinBlocks a b = .ok ir') : ir'.next = ir.next := by
  obtain ⟨b1, b2, h1, h2⟩ := joinBlocks_blocks h
  obtain ⟨_, sect, _, rfl⟩ := joinBlocks_ok h h1 h2
  rw [setBlock_next, orderRemove_next, setBlock_next, joinTables_next]
  exact joinCodeIf_obs _ next_cfgFree next_funcsFree ..

@[simp] theorem editInterval_next (ir : IR) (i off len : Nat) (c st : List Nat) :
    (ir.editInterval i off len c st).next = ir.next :=
  editInterval_obs _ (fun _ _ _ _ => rfl) ..
@[simp] theorem addReturnEdgesForPatchCalls_next (ir : IR) (pcfg : List Edge) :
    (ir.addReturnEdgesForPatchCalls pcfg).1.next = ir.next := addReturnEdgesForPatchCalls_obs _ next_cfgFree ..
theorem insertStitch_next (ir : IR) (tb : List Block) (b e : Nat) (a : Bool) :
    (ir.insertStitch tb b e a).next = ir.next := insertStitch_obs _ next_cfgFree ..
theorem addPatchExprs_next (ir : IR) (i base : Nat) (ex : List (Nat × SymExpr)) :
    (ir.addPatchExprs i base ex).next = ir.next := addPatchExprs_obs _ (fun _ _ => rfl) ..
@[simp] theorem addPatchFunctions_next (ir : IR) (blk : Block) (tb : List Block) :
    (ir.addPatchFunctions blk tb).next = ir.next := addPatchFunctions_obs _ next_funcsFree ..

theorem cleanup_next_le {ir ir' : IR} {bl : List Nat} {last : Nat}
    (h : ir.cleanup bl = .ok (ir', last)) : ir.next ≤ ir'.next :=
  cleanup_rel (R := fun a b => a.next ≤ b.next) (fun _ => Nat.le_refl _) Nat.le_trans
    (fun hj => Nat.le_of_eq (joinBlocks_next hj).symm) removeBlock_next_le h

/-! ### `order`, the block ordering -/

@[simp] theorem setBlock_order (ir : IR) (b : Block) : (ir.setBlock b).order = ir.order := rfl
@[simp] theorem updateEdge_order (ir : IR) (e e' : Edge) : (ir.updateEdge e e').order = ir.order := rfl
@[simp] theorem addFunctionBlock_order (ir : IR) (b f : Nat) : (ir.addFunctionBlock b f).order = ir.order := rfl
@[simp] theorem splitSyms_order (ir : IR) (b nb : Nat) : (ir.splitSyms b nb).order = ir.order := rfl
@[simp] theorem splitBlocks_order (ir : IR) (blk : Block) (nb off : Nat) :
    (ir.splitBlocks blk nb off).order = ir.order := rfl
@[simp] theorem splitTables_order (ir : IR) (b nb off : Nat) :
    (ir.splitTables b nb off).order = ir.order := rfl
@[simp] theorem addFall_order (ir : IR) (a b : Nat) : (ir.addFall a b).order = ir.order := rfl
@[simp] theorem joinSyms_order (ir : IR) (b1 : Block) (id2 : Nat) :
    (ir.joinSyms b1 id2).order = ir.order := rfl
@[simp] theorem joinTables_order (ir : IR) (b1 : Block) (id2 : Nat) (c : Bool) :
    (ir.joinTables b1 id2 c).order = ir.order := rfl
@[simp] theorem removeSyms_order (ir : IR) (b : Nat) (t : Referent × Bool) :
    (ir.removeSyms b t).order = ir.order := rfl
@[simp] theorem removeAuxEntries_order (ir : IR) (blk : Block) :
    (ir.removeAuxEntries blk).order = ir.order := rfl
@[simp] theorem removeCfi_order (ir : IR) (b : Nat) (c : List CfiDir) (p n : Option Nat) (pc nc : Bool) :
    (ir.removeCfi b c p n pc nc).order = ir.order := rfl

theorem order_cfgFree : CfgFree IR.order := fun _ _ => rfl
theorem order_graphFree : GraphFree IR.order := fun _ _ _ _ => rfl
theorem order_funcsFree : FuncsFree IR.order := fun _ _ _ _ _ => rfl

@[simp] theorem removeOutEdges_order (ir : IR) (blk : Block) : (ir.removeOutEdges blk).order = ir.order :=
  removeOutEdges_obs _ order_graphFree ..
@[simp] theorem withProxy_order (ir : IR) (t : Bool) : (ir.withProxy t).order = ir.order :=
  withProxy_obs _ order_graphFree.ids ..
@[simp] theorem connectEmptyTail_order (ir : IR) (t : Nat) : (ir.connectEmptyTail t).order = ir.order :=
  connectEmptyTail_obs _ order_cfgFree ..

@[simp] theorem removeStages_order (ir : IR) (blk : Block) (t c : Bool) (px p n : Option Nat) :
    (ir.removeStages blk t c px p n).order = ir.order := by
  cases c
  · rw [removeStages_false, removeCfi_order, removeAuxEntries_order, removeOutEdges_order]
  · rw [removeStages_true, removeCfi_order, removeAuxEntries_order, removeOutEdges_order,
      removeEntrypoints_obs IR.order (fun _ _ _ _ _ _ => rfl), removeFunctions_obs _ order_funcsFree,
      removeInEdges_obs _ order_graphFree, removeSyms_order]

theorem editInterval_order (ir : IR) (i off len : Nat) (c st : List Nat) : (ir.editInterval i off len c st).order = ir.order :=
  editInterval_obs _ (fun _ _ _ _ => rfl) ..

@[simp] theorem insertStitch_order (ir : IR) (tb : List Block) (b e : Nat) (a : Bool) :
    (ir.insertStitch tb b e a).order = ir.order := insertStitch_obs _ order_cfgFree ..
@[simp] theorem placePatchBlocks_order (ir : IR) (tb : List Block) (i base : Nat) :
    (ir.placePatchBlocks tb i base).order = ir.order := rfl
@[simp] theorem addPatchNodes_order (ir : IR) (p : Patch) (c : List Edge) (px : List Nat) :
    (ir.addPatchNodes p c px).order = ir.order := rfl
@[simp] theorem addPatchAux_order (ir : IR) (p : Patch) (i base : Nat) :
    (ir.addPatchAux p i base).order = ir.order := rfl
@[simp] theorem bumpNext_order (ir : IR) (p : Patch) : (ir.bumpNext p).order = ir.order := rfl
@[simp] theorem addPatchFunctions_order (ir : IR) (blk : Block) (tb : List Block) :
    (ir.addPatchFunctions blk tb).order = ir.order := addPatchFunctions_obs _ order_funcsFree ..
@[simp] theorem addReturnEdgesForPatchCalls_order (ir : IR) (pcfg : List Edge) :
    (ir.addReturnEdgesForPatchCalls pcfg).1.order = ir.order := addReturnEdgesForPatchCalls_obs _ order_cfgFree ..
theorem addPatchExprs_order (ir : IR) (i base : Nat) (ex : List (Nat × SymExpr)) : (ir.addPatchExprs i base ex).order = ir.order :=
  addPatchExprs_obs _ (fun _ _ => rfl) ..
theorem adoptPatchBlocks_order (ir : IR) (p : Patch) (f : Nat) : (ir.adoptPatchBlocks p f).order = ir.order :=
  adoptPatchBlocks_obs _ order_funcsFree ..

/-! ### `syms` -/

theorem setBlock_syms (ir : IR) (b : Block) : (ir.setBlock b).syms = ir.syms := rfl
theorem orderRemove_syms (ir : IR) (s b : Nat) : (ir.orderRemove s b).syms = ir.syms := rfl
theorem orderInsertAfter_syms (ir : IR) (s a : Nat) (bs : List Nat) : (ir.orderInsertAfter s a bs).syms = ir.syms := rfl
@[simp] theorem splitTables_syms (ir : IR) (b nb off : Nat) : (ir.splitTables b nb off).syms = ir.syms := rfl
@[simp] theorem joinTables_syms (ir : IR) (b1 : Block) (id2 : Nat) (c : Bool) : (ir.joinTables b1 id2 c).syms = ir.syms := rfl
@[simp] theorem removeAuxEntries_syms (ir : IR) (blk : Block) : (ir.removeAuxEntries blk).syms = ir.syms := rfl
@[simp] theorem removeCfi_syms (ir : IR) (b : Nat) (c : List CfiDir) (p n : Option Nat) (pc nc : Bool) :
    (ir.removeCfi b c p n pc nc).syms = ir.syms := rfl
@[simp] theorem removeEntrypoints_syms (ir : IR) (blk : Block) (n : Option Nat) (nc : Bool) :
    (ir.removeEntrypoints blk n nc).syms = ir.syms := removeEntrypoints_obs _ (fun _ _ _ _ _ _ => rfl) ..

theorem syms_cfgFree : CfgFree IR.syms := fun _ _ => rfl
theorem syms_funcsFree : FuncsFree IR.syms := fun _ _ _ _ _ => rfl

@[simp] theorem addFunctionBlock_syms (ir : IR) (b f : Nat) : (ir.addFunctionBlock b f).syms = ir.syms := rfl
@[simp] theorem insertStitch_syms (ir : IR) (tb : List Block) (b e : Nat) (a : Bool) :
    (ir.insertStitch tb b e a).syms = ir.syms := insertStitch_obs _ syms_cfgFree ..
@[simp] theorem placePatchBlocks_syms (ir : IR) (tb : List Block) (i base : Nat) :
    (ir.placePatchBlocks tb i base).syms = ir.syms := rfl
@[simp] theorem addPatchAux_syms (ir : IR) (p : Patch) (i base : Nat) :
    (ir.addPatchAux p i base).syms = ir.syms := rfl
@[simp] theorem bumpNext_syms (ir : IR) (p : Patch) : (ir.bumpNext p).syms = ir.syms := rfl
@[simp] theorem addPatchFunctions_syms (ir : IR) (blk : Block) (tb : List Block) :
    (ir.addPatchFunctions blk tb).syms = ir.syms := addPatchFunctions_obs _ syms_funcsFree ..
@[simp] theorem addReturnEdgesForPatchCalls_syms (ir : IR) (pcfg : List Edge) :
    (ir.addReturnEdgesForPatchCalls pcfg).1.syms = ir.syms := addReturnEdgesForPatchCalls_obs _ syms_cfgFree ..
theorem addPatchExprs_syms (ir : IR) (i base : Nat) (ex : List (Nat × SymExpr)) : (ir.addPatchExprs i base ex).syms = ir.syms :=
  addPatchExprs_obs _ (fun _ _ => rfl) ..
theorem editInterval_syms (ir : IR) (i off len : Nat) (c st : List Nat) : (ir.editInterval i off len c st).syms = ir.syms :=
  editInterval_obs _ (fun _ _ _ _ => rfl) ..
theorem adoptPatchBlocks_syms (ir : IR) (p : Patch) (f : Nat) : (ir.adoptPatchBlocks p f).syms = ir.syms :=
  adoptPatchBlocks_obs _ syms_funcsFree ..

/-! ### `blocks` -/

theorem orderRemove_blocks (ir : IR) (s b : Nat) : (ir.orderRemove s b).blocks = ir.blocks := rfl
theorem orderInsertAfter_blocks (ir : IR) (s a : Nat) (bs : List Nat) :
    (ir.orderInsertAfter s a bs).blocks = ir.blocks := rfl
@[simp] theorem splitTables_blocks (ir : IR) (b nb off : Nat) : (ir.splitTables b nb off).blocks = ir.blocks := rfl
@[simp] theorem joinTables_blocks (ir : IR) (b1 : Block) (id2 : Nat) (c : Bool) : (ir.joinTables b1 id2 c).blocks = ir.blocks := rfl

/-! ### `cfg` -/

theorem setBlock_cfg (ir : IR) (b : Block) : (ir.setBlock b).cfg = ir.cfg := rfl
theorem orderRemove_cfg (ir : IR) (s b : Nat) : (ir.orderRemove s b).cfg = ir.cfg := rfl
theorem joinTables_cfg (ir : IR) (b1 : Block) (id2 : Nat) (c : Bool) : (ir.joinTables b1 id2 c).cfg = ir.cfg := rfl
theorem removeAuxEntries_cfg (ir : IR) (blk : Block) : (ir.removeAuxEntries blk).cfg = ir.cfg := rfl
theorem removeCfi_cfg (ir : IR) (b : Nat) (c : List CfiDir) (p n : Option Nat) (pc nc : Bool) :
    (ir.removeCfi b c p n pc nc).cfg = ir.cfg := rfl

/-! ### `aux`, and its alignment table -/

theorem setBlock_aux (ir : IR) (b : Block) : (ir.setBlock b).aux = ir.aux := rfl
theorem orderRemove_aux (ir : IR) (s b : Nat) : (ir.orderRemove s b).aux = ir.aux := rfl
theorem orderInsertAfter_aux (ir : IR) (s a : Nat) (bs : List Nat) : (ir.orderInsertAfter s a bs).aux = ir.aux := rfl
theorem keepEmpty_aux (ir : IR) (blk : Block) : (ir.keepEmpty blk).aux = ir.aux :=
  keepEmpty_obs IR.aux (fun _ _ _ _ => rfl) ..
theorem removeAuxEntries_alignment (ir : IR) (blk : Block) :
    (ir.removeAuxEntries blk).aux.alignment = ir.aux.alignment := rfl
theorem removeCfi_alignment (ir : IR) (b : Nat) (c : List CfiDir) (p n : Option Nat) (pc nc : Bool) :
    (ir.removeCfi b c p n pc nc).aux.alignment = ir.aux.alignment := rfl

/-! ### `fbb` and `functionBlocks` -/

@[simp] theorem setBlock_fbb (ir : IR) (b : Block) : (ir.setBlock b).fbb = ir.fbb := rfl
@[simp] theorem updateEdge_fbb (ir : IR) (e e' : Edge) : (ir.updateEdge e e').fbb = ir.fbb := rfl
@[simp] theorem orderInsertAfter_fbb (ir : IR) (s a : Nat) (bs : List Nat) :
    (ir.orderInsertAfter s a bs).fbb = ir.fbb := rfl
@[simp] theorem orderRemove_fbb (ir : IR) (s b : Nat) : (ir.orderRemove s b).fbb = ir.fbb := rfl
@[simp] theorem orderAppend_fbb (ir : IR) (s : Nat) (bs : List Nat) :
    (ir.orderAppend s bs).fbb = ir.fbb :=
  orderAppend_obs _ (fun _ _ => rfl) ..
@[simp] theorem splitSyms_fbb (ir : IR) (b nb : Nat) : (ir.splitSyms b nb).fbb = ir.fbb := rfl
@[simp] theorem splitBlocks_fbb (ir : IR) (blk : Block) (nb off : Nat) :
    (ir.splitBlocks blk nb off).fbb = ir.fbb := rfl
@[simp] theorem splitTables_fbb (ir : IR) (b nb off : Nat) :
    (ir.splitTables b nb off).fbb = ir.fbb := rfl
@[simp] theorem addFall_fbb (ir : IR) (a b : Nat) : (ir.addFall a b).fbb = ir.fbb := rfl
@[simp] theorem joinSyms_fbb (ir : IR) (b1 : Block) (id2 : Nat) :
    (ir.joinSyms b1 id2).fbb = ir.fbb := rfl
@[simp] theorem joinTables_fbb (ir : IR) (b1 : Block) (id2 : Nat) (c : Bool) :
    (ir.joinTables b1 id2 c).fbb = ir.fbb := rfl
@[simp] theorem removeSyms_fbb (ir : IR) (b : Nat) (t : Referent × Bool) :
    (ir.removeSyms b t).fbb = ir.fbb := rfl
@[simp] theorem removeAuxEntries_fbb (ir : IR) (blk : Block) :
    (ir.removeAuxEntries blk).fbb = ir.fbb := rfl
@[simp] theorem removeCfi_fbb (ir : IR) (b : Nat) (c : List CfiDir) (p n : Option Nat) (pc nc : Bool) :
    (ir.removeCfi b c p n pc nc).fbb = ir.fbb := rfl
@[simp] theorem placePatchBlocks_fbb (ir : IR) (tb : List Block) (i base : Nat) :
    (ir.placePatchBlocks tb i base).fbb = ir.fbb := rfl
@[simp] theorem addPatchNodes_fbb (ir : IR) (p : Patch) (c : List Edge) (px : List Nat) :
    (ir.addPatchNodes p c px).fbb = ir.fbb := rfl
@[simp] theorem addPatchAux_fbb (ir : IR) (p : Patch) (i base : Nat) :
    (ir.addPatchAux p i base).fbb = ir.fbb := rfl
@[simp] theorem bumpNext_fbb (ir : IR) (p : Patch) : (ir.bumpNext p).fbb = ir.fbb := rfl
@[simp] theorem editInterval_fbb (ir : IR) (i off len : Nat) (c st : List Nat) : (ir.editInterval i off len c st).fbb = ir.fbb :=
  editInterval_obs _ (fun _ _ _ _ => rfl) ..
@[simp] theorem addPatchExprs_fbb (ir : IR) (i base : Nat) (ex : List (Nat × SymExpr)) : (ir.addPatchExprs i base ex).fbb = ir.fbb :=
  addPatchExprs_obs _ (fun _ _ => rfl) ..

theorem fbb_graphFree : GraphFree (α := List (Nat × Nat)) IR.fbb := fun _ _ _ _ => rfl

@[simp] theorem splitEdgesMid_fbb (ir : IR) (b nb : Nat) :
    (ir.splitEdgesMid b nb).fbb = ir.fbb :=
  splitEdgesMid_obs IR.fbb fbb_graphFree.cfg ..
@[simp] theorem splitEdgesEnd_fbb (ir : IR) (b nb : Nat) :
    (ir.splitEdgesEnd b nb).fbb = ir.fbb :=
  splitEdgesEnd_obs IR.fbb fbb_graphFree.cfg ..
@[simp] theorem removeInEdges_fbb (ir : IR) (blk : Block) (p n : Option Nat) (nc : Bool) :
    (ir.removeInEdges blk p n nc).fbb = ir.fbb := removeInEdges_obs IR.fbb fbb_graphFree ..
@[simp] theorem removeEntrypoints_fbb (ir : IR) (blk : Block) (n : Option Nat) (nc : Bool) :
    (ir.removeEntrypoints blk n nc).fbb = ir.fbb := removeEntrypoints_obs IR.fbb (fun _ _ _ _ _ _ => rfl) ..
@[simp] theorem removeOutEdges_fbb (ir : IR) (blk : Block) :
    (ir.removeOutEdges blk).fbb = ir.fbb :=
  removeOutEdges_obs IR.fbb fbb_graphFree ..
@[simp] theorem keepEmpty_fbb (ir : IR) (blk : Block) : (ir.keepEmpty blk).fbb = ir.fbb :=
  keepEmpty_obs IR.fbb fbb_graphFree ..
@[simp] theorem withProxy_fbb (ir : IR) (t : Bool) : (ir.withProxy t).fbb = ir.fbb :=
  withProxy_obs IR.fbb fbb_graphFree.ids ..
@[simp] theorem connectEmptyTail_fbb (ir : IR) (t : Nat) : (ir.connectEmptyTail t).fbb = ir.fbb :=
  connectEmptyTail_obs IR.fbb fbb_graphFree.cfg ..
@[simp] theorem insertStitch_fbb (ir : IR) (tb : List Block) (b e : Nat) (a : Bool) :
    (ir.insertStitch tb b e a).fbb = ir.fbb := insertStitch_obs IR.fbb fbb_graphFree.cfg ..
@[simp] theorem addReturnEdgesForPatchCalls_fbb (ir : IR) (pcfg : List Edge) :
    (ir.addReturnEdgesForPatchCalls pcfg).1.fbb = ir.fbb := addReturnEdgesForPatchCalls_obs IR.fbb fbb_graphFree.cfg ..

@[simp] theorem setBlock_funcBlocks (ir : IR) (b : Block) : (ir.setBlock b).aux.funcBlocks = ir.aux.funcBlocks := rfl
@[simp] theorem updateEdge_funcBlocks (ir : IR) (e e' : Edge) : (ir.updateEdge e e').aux.funcBlocks = ir.aux.funcBlocks := rfl
@[simp] theorem orderInsertAfter_funcBlocks (ir : IR) (s a : Nat) (bs : List Nat) :
    (ir.orderInsertAfter s a bs).aux.funcBlocks = ir.aux.funcBlocks := rfl
@[simp] theorem orderRemove_funcBlocks (ir : IR) (s b : Nat) : (ir.orderRemove s b).aux.funcBlocks = ir.aux.funcBlocks := rfl
@[simp] theorem orderAppend_funcBlocks (ir : IR) (s : Nat) (bs : List Nat) :
    (ir.orderAppend s bs).aux.funcBlocks = ir.aux.funcBlocks :=
  orderAppend_obs (·.aux.funcBlocks) (fun _ _ => rfl) ..
@[simp] theorem splitSyms_funcBlocks (ir : IR) (b nb : Nat) : (ir.splitSyms b nb).aux.funcBlocks = ir.aux.funcBlocks := rfl
@[simp] theorem splitBlocks_funcBlocks (ir : IR) (blk : Block) (nb off : Nat) :
    (ir.splitBlocks blk nb off).aux.funcBlocks = ir.aux.funcBlocks := rfl
@[simp] theorem splitTables_funcBlocks (ir : IR) (b nb off : Nat) :
    (ir.splitTables b nb off).aux.funcBlocks = ir.aux.funcBlocks := rfl
@[simp] theorem addFall_funcBlocks (ir : IR) (a b : Nat) : (ir.addFall a b).aux.funcBlocks = ir.aux.funcBlocks := rfl
@[simp] theorem joinSyms_funcBlocks (ir : IR) (b1 : Block) (id2 : Nat) :
    (ir.joinSyms b1 id2).aux.funcBlocks = ir.aux.funcBlocks := rfl
@[simp] theorem joinTables_funcBlocks (ir : IR) (b1 : Block) (id2 : Nat) (c : Bool) :
    (ir.joinTables b1 id2 c).aux.funcBlocks = ir.aux.funcBlocks := rfl
@[simp] theorem removeSyms_funcBlocks (ir : IR) (b : Nat) (t : Referent × Bool) :
    (ir.removeSyms b t).aux.funcBlocks = ir.aux.funcBlocks := rfl
@[simp] theorem removeAuxEntries_funcBlocks (ir : IR) (blk : Block) :
    (ir.removeAuxEntries blk).aux.funcBlocks = ir.aux.funcBlocks := rfl
@[simp] theorem removeCfi_funcBlocks (ir : IR) (b : Nat) (c : List CfiDir) (p n : Option Nat) (pc nc : Bool) :
    (ir.removeCfi b c p n pc nc).aux.funcBlocks = ir.aux.funcBlocks := rfl
@[simp] theorem placePatchBlocks_funcBlocks (ir : IR) (tb : List Block) (i base : Nat) :
    (ir.placePatchBlocks tb i base).aux.funcBlocks = ir.aux.funcBlocks := rfl
@[simp] theorem addPatchNodes_funcBlocks (ir : IR) (p : Patch) (c : List Edge) (px : List Nat) :
    (ir.addPatchNodes p c px).aux.funcBlocks = ir.aux.funcBlocks := rfl
@[simp] theorem addPatchAux_funcBlocks (ir : IR) (p : Patch) (i base : Nat) :
    (ir.addPatchAux p i base).aux.funcBlocks = ir.aux.funcBlocks := rfl
@[simp] theorem bumpNext_funcBlocks (ir : IR) (p : Patch) : (ir.bumpNext p).aux.funcBlocks = ir.aux.funcBlocks := rfl
@[simp] theorem editInterval_funcBlocks (ir : IR) (i off len : Nat) (c st : List Nat) :
    (ir.editInterval i off len c st).aux.funcBlocks = ir.aux.funcBlocks := editInterval_obs (·.aux.funcBlocks) (fun _ _ _ _ => rfl) ..
@[simp] theorem addPatchExprs_funcBlocks (ir : IR) (i base : Nat) (ex : List (Nat × SymExpr)) :
    (ir.addPatchExprs i base ex).aux.funcBlocks = ir.aux.funcBlocks := addPatchExprs_obs (·.aux.funcBlocks) (fun _ _ => rfl) ..

theorem funcBlocks_graphFree : GraphFree (α := List (Nat × List Nat)) (·.aux.funcBlocks) := fun _ _ _ _ => rfl

@[simp] theorem keepEmpty_funcBlocks (ir : IR) (blk : Block) : (ir.keepEmpty blk).aux.funcBlocks = ir.aux.funcBlocks :=
  keepEmpty_obs (·.aux.funcBlocks) funcBlocks_graphFree ..
@[simp] theorem insertStitch_funcBlocks (ir : IR) (tb : List Block) (b e : Nat) (a : Bool) :
    (ir.insertStitch tb b e a).aux.funcBlocks = ir.aux.funcBlocks := insertStitch_obs (·.aux.funcBlocks) funcBlocks_graphFree.cfg ..
@[simp] theorem addReturnEdgesForPatchCalls_funcBlocks (ir : IR) (pcfg : List Edge) :
    (ir.addReturnEdgesForPatchCalls pcfg).1.aux.funcBlocks = ir.aux.funcBlocks := addReturnEdgesForPatchCalls_obs (·.aux.funcBlocks) funcBlocks_graphFree.cfg ..

/-! ### `functionEntries` -/

@[simp] theorem setBlock_funcEntries (ir : IR) (b : Block) : (ir.setBlock b).aux.funcEntries = ir.aux.funcEntries := rfl
@[simp] theorem updateEdge_funcEntries (ir : IR) (e e' : Edge) : (ir.updateEdge e e').aux.funcEntries = ir.aux.funcEntries := rfl
@[simp] theorem orderInsertAfter_funcEntries (ir : IR) (s a : Nat) (bs : List Nat) :
    (ir.orderInsertAfter s a bs).aux.funcEntries = ir.aux.funcEntries := rfl
@[simp] theorem orderRemove_funcEntries (ir : IR) (s b : Nat) : (ir.orderRemove s b).aux.funcEntries = ir.aux.funcEntries := rfl
@[simp] theorem orderAppend_funcEntries (ir : IR) (s : Nat) (bs : List Nat) :
    (ir.orderAppend s bs).aux.funcEntries = ir.aux.funcEntries :=
  orderAppend_obs (·.aux.funcEntries) (fun _ _ => rfl) ..
@[simp] theorem splitSyms_funcEntries (ir : IR) (b nb : Nat) : (ir.splitSyms b nb).aux.funcEntries = ir.aux.funcEntries := rfl
@[simp] theorem splitBlocks_funcEntries (ir : IR) (blk : Block) (nb off : Nat) :
    (ir.splitBlocks blk nb off).aux.funcEntries = ir.aux.funcEntries := rfl
@[simp] theorem splitTables_funcEntries (ir : IR) (b nb off : Nat) :
    (ir.splitTables b nb off).aux.funcEntries = ir.aux.funcEntries := rfl
@[simp] theorem addFall_funcEntries (ir : IR) (a b : Nat) : (ir.addFall a b).aux.funcEntries = ir.aux.funcEntries := rfl
@[simp] theorem joinSyms_funcEntries (ir : IR) (b1 : Block) (id2 : Nat) :
    (ir.joinSyms b1 id2).aux.funcEntries = ir.aux.funcEntries := rfl
@[simp] theorem joinTables_funcEntries (ir : IR) (b1 : Block) (id2 : Nat) (c : Bool) :
    (ir.joinTables b1 id2 c).aux.funcEntries = ir.aux.funcEntries := rfl
@[simp] theorem removeSyms_funcEntries (ir : IR) (b : Nat) (t : Referent × Bool) :
    (ir.removeSyms b t).aux.funcEntries = ir.aux.funcEntries := rfl
@[simp] theorem removeAuxEntries_funcEntries (ir : IR) (blk : Block) :
    (ir.removeAuxEntries blk).aux.funcEntries = ir.aux.funcEntries := rfl
@[simp] theorem removeCfi_funcEntries (ir : IR) (b : Nat) (c : List CfiDir) (p n : Option Nat) (pc nc : Bool) :
    (ir.removeCfi b c p n pc nc).aux.funcEntries = ir.aux.funcEntries := rfl
@[simp] theorem placePatchBlocks_funcEntries (ir : IR) (tb : List Block) (i base : Nat) :
    (ir.placePatchBlocks tb i base).aux.funcEntries = ir.aux.funcEntries := rfl
@[simp] theorem addPatchNodes_funcEntries (ir : IR) (p : Patch) (c : List Edge) (px : List Nat) :
    (ir.addPatchNodes p c px).aux.funcEntries = ir.aux.funcEntries := rfl
@[simp] theorem addPatchAux_funcEntries (ir : IR) (p : Patch) (i base : Nat) :
    (ir.addPatchAux p i base).aux.funcEntries = ir.aux.funcEntries := rfl
@[simp] theorem bumpNext_funcEntries (ir : IR) (p : Patch) : (ir.bumpNext p).aux.funcEntries = ir.aux.funcEntries := rfl
@[simp] theorem editInterval_funcEntries (ir : IR) (i off len : Nat) (c st : List Nat) :
    (ir.editInterval i off len c st).aux.funcEntries = ir.aux.funcEntries := editInterval_obs (·.aux.funcEntries) (fun _ _ _ _ => rfl) ..
@[simp] theorem addPatchExprs_funcEntries (ir : IR) (i base : Nat) (ex : List (Nat × SymExpr)) :
    (ir.addPatchExprs i base ex).aux.funcEntries = ir.aux.funcEntries := addPatchExprs_obs (·.aux.funcEntries) (fun _ _ => rfl) ..

theorem funcEntries_graphFree : GraphFree (α := List (Nat × List Nat)) (·.aux.funcEntries) := fun _ _ _ _ => rfl

@[simp] theorem removeInEdges_funcEntries (ir : IR) (blk : Block) (p n : Option Nat) (nc : Bool) :
    (ir.removeInEdges blk p n nc).aux.funcEntries = ir.aux.funcEntries := removeInEdges_obs (·.aux.funcEntries) funcEntries_graphFree ..
@[simp] theorem removeEntrypoints_funcEntries (ir : IR) (blk : Block) (n : Option Nat) (nc : Bool) :
    (ir.removeEntrypoints blk n nc).aux.funcEntries = ir.aux.funcEntries := removeEntrypoints_obs (·.aux.funcEntries) (fun _ _ _ _ _ _ => rfl) ..
@[simp] theorem removeOutEdges_funcEntries (ir : IR) (blk : Block) : (ir.removeOutEdges blk).aux.funcEntries = ir.aux.funcEntries :=
  removeOutEdges_obs (·.aux.funcEntries) funcEntries_graphFree ..
@[simp] theorem insertStitch_funcEntries (ir : IR) (tb : List Block) (b e : Nat) (a : Bool) :
    (ir.insertStitch tb b e a).aux.funcEntries = ir.aux.funcEntries := insertStitch_obs (·.aux.funcEntries) funcEntries_graphFree.cfg ..
@[simp] theorem addReturnEdgesForPatchCalls_funcEntries (ir : IR) (pcfg : List Edge) :
    (ir.addReturnEdgesForPatchCalls pcfg).1.aux.funcEntries = ir.aux.funcEntries := addReturnEdgesForPatchCalls_obs (·.aux.funcEntries) funcEntries_graphFree.cfg ..

@[simp] theorem addFunctionBlock_funcEntries (ir : IR) (b f : Nat) : (ir.addFunctionBlock b f).aux.funcEntries = ir.aux.funcEntries := rfl

end GtirbVerif.IR
