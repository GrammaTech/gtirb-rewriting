import GtirbVerif.Spec.AdtSpec

/-!
The model of `ReferenceCache` (Model/Adt/RefCache.lean) is a forest: `parent` links nodes, each block with
indirect references has two root nodes (`refs`), symbols hang on nodes (`referents`) or refer directly
(`direct`).  `Inv c ∧ Abs c sp` says two independent things, and the proofs keep them apart (`Sim`): one about
the node tables `parent`, `refs`, `next` alone (`Forest`), one per symbol. Every primitive of the
cache writes on one side only, so the other carries over unchanged.
-/
namespace GtirbVerif.Adt

theorem fset_same {β} {f : Nat → β} {k : Nat} {v : β} : fset f k v k = v := by simp [fset]
theorem fset_other {β} {f : Nat → β} {k : Nat} {v : β} {x : Nat} (h : x ≠ k) : fset f k v x = f x := by
  simp [fset, h]

theorem fset_comm {β} (f : Nat → β) {a b : Nat} (h : a ≠ b) (u v : β) :
    fset (fset f a u) b v = fset (fset f b v) a u := by
  funext x
  simp only [fset]
  by_cases hb : x = b
  · rw [if_pos hb, if_neg (hb ▸ h.symm), if_pos hb]
  · rw [if_neg hb, if_neg hb]

theorem fset_fset {β} (f : Nat → β) (k : Nat) (u v : β) : fset (fset f k u) k v = fset f k v := by
  funext x
  simp only [fset]
  split <;> rfl

/-- node `n` reaches root `r`, whose referent block is `b` -/
inductive Res (par : Nat → PRef) : Nat → Nat → Nat → Prop
  | root {n b} : par n = .block b → Res par n n b
  | step {n p r b} : par n = .node p → Res par p r b → Res par n r b

theorem Res.det {par : Nat → PRef} {n r b r' b' : Nat} (h : Res par n r b) (h' : Res par n r' b') :
    r = r' ∧ b = b' := by
  induction h generalizing r' b' with
  | root hp =>
    cases h' with
    | root hp' => rw [hp] at hp'; cases hp'; exact ⟨rfl, rfl⟩
    | step hp' _ => rw [hp] at hp'; cases hp'
  | step hp _ ih =>
    cases h' with
    | root hp' => rw [hp] at hp'; cases hp'
    | step hp' h2 => rw [hp] at hp'; cases hp'; exact ih h2

theorem Res.root_parent {par : Nat → PRef} {n r b : Nat} (h : Res par n r b) : par r = .block b := by
  induction h with
  | root hp => exact hp
  | step _ _ ih => exact ih

theorem Res.not_dead {par : Nat → PRef} {n r b : Nat} (h : Res par n r b) : par n ≠ .dead := by
  cases h with
  | root hp => rw [hp]; simp
  | step hp _ => rw [hp]; simp

/-- `hr`: the old root need not be a root of `par'` (roots hung under another root) -/
theorem Res.mono {par par' : Nat → PRef} {n r b r' b' : Nat} (h : Res par n r b)
    (hsame : ∀ m p, par m = .node p → par' m = .node p) (hr : Res par' r r' b') :
    Res par' n r' b' := by
  induction h with
  | root _ => exact hr
  | step hp _ ih => exact .step (hsame _ _ hp) (ih hr)

theorem Res.eq_of_childless {par : Nat → PRef} {n r b : Nat} (h : Res par n r b)
    (hr : ∀ k, par k ≠ .node r) : n = r := by
  induction h with
  | root _ => rfl
  | step hp _ ih => rw [ih hr] at hp; exact absurd hp (hr _)

theorem Res.kill {par : Nat → PRef} {m : Nat} (hnochild : ∀ k, par k ≠ .node m)
    {n r b0 : Nat} (h : Res par n r b0) (hn : n ≠ m) : Res (fset par m .dead) n r b0 := by
  induction h with
  | @root n b1 hp => exact .root ((fset_other hn).trans hp)
  | @step n p r b1 hp h2 ih =>
    have hp' : p ≠ m := by rintro rfl; exact hnochild n hp
    exact .step ((fset_other hn).trans hp) (ih hp')

theorem Res.bypass {par : Nat → PRef} {ref p g : Nat} (h1 : par ref = .node p) (h2 : par p = .node g)
    {n r b0 : Nat} (h : Res par n r b0) : Res (fset par ref (.node g)) n r b0 := by
  induction h with
  | @root n b1 hp =>
    have : n ≠ ref := by rintro rfl; rw [h1] at hp; cases hp
    exact .root ((fset_other this).trans hp)
  | @step n q r b1 hq hres ih =>
    by_cases hn : n = ref
    · subst hn
      rw [h1] at hq; cases hq
      -- ih : Res par' p r b1; its first step goes to g
      have hp' : fset par n (.node g) p = .node g := by
        by_cases hpn : p = n
        · rw [hpn, fset_same]
        · rw [fset_other hpn]; exact h2
      cases ih with
      | root hb => rw [hp'] at hb; cases hb
      | step hs hrest =>
        rw [hp'] at hs; cases hs
        exact .step fset_same hrest
    · exact .step ((fset_other hn).trans hq) ih

/-- what the symbol stands for: `(referent, at_end)` -/
def Stands (c : RC) (s : Nat) (blk : Option Nat) (ae : Bool) : Prop :=
  match c.referents s with
  | none => blk = c.direct s ∧ ae = c.atEnd s
  | some n => ∃ r b x y, Res c.parent n r b ∧ c.refs b = some (x, y) ∧ blk = some b ∧ ae = (r == y)

/-- the concrete forest stands for the abstract assignment -/
def Abs (c : RC) (sp : RSpec) : Prop := ∀ s, Stands c s (sp.ref s) (sp.atEnd s)

structure Inv (c : RC) : Prop where
  /-- every node that carries a symbol resolves to a root -/
  resolves : ∀ s n, c.referents s = some n → ∃ r b, Res c.parent n r b
  /-- roots are exactly the registered tree pairs -/
  rootsReg : ∀ n b, c.parent n = .block b → ∃ x y, c.refs b = some (x, y) ∧ (n = x ∨ n = y)
  regRoots : ∀ b x y, c.refs b = some (x, y) → c.parent x = .block b ∧ c.parent y = .block b ∧ x ≠ y
  /-- a symbol is never both direct and indirect -/
  indirect : ∀ s n, c.referents s = some n → c.direct s = none
  /-- nodes not allocated yet are unused -/
  fresh : ∀ n, c.next ≤ n → c.parent n = .dead ∧ (∀ m, c.parent m ≠ .node n) ∧
    (∀ s, c.referents s ≠ some n) ∧ (∀ b x y, c.refs b = some (x, y) → x ≠ n ∧ y ≠ n)
  /-- symbols outside the universe carry nothing -/
  symBound : ∀ s, c.nSyms ≤ s → c.referents s = none ∧ c.direct s = none

theorem inv_init (n : Nat) : Inv { nSyms := n } := by
  refine ⟨?_, ?_, ?_, ?_, ?_, ?_⟩ <;> simp

theorem abs_init (n : Nat) : Abs { nSyms := n } {} := by
  intro s; simp [Stands]

/-- `Inv.fresh` read backwards; what `fresh` says of `referents` and `refs` follows (`sim_iff`). -/
structure Below (par : Nat → PRef) (k : Nat) : Prop where
  live : ∀ n, par n ≠ .dead → n < k
  up : ∀ m n, par m = .node n → n < k

structure Forest (par : Nat → PRef) (refs : Nat → Option (Nat × Nat)) (k : Nat) : Prop extends Below par k where
  rootsReg : ∀ n b, par n = .block b → ∃ x y, refs b = some (x, y) ∧ (n = x ∨ n = y)
  regRoots : ∀ b x y, refs b = some (x, y) → par x = .block b ∧ par y = .block b ∧ x ≠ y

section
variable {par : Nat → PRef} {refs : Nat → Option (Nat × Nat)} {k : Nat}

theorem Below.write (h : Below par k) {m : Nat} {v : PRef} (hm : m < k) (hv : ∀ a, v = .node a → a < k) :
    Below (fset par m v) k := by
  refine ⟨fun n hn => ?_, fun n a hn => ?_⟩
  -- here and in the next three lemmas every `split` asks: is the index one of the entries just written?
  all_goals simp only [fset] at hn
  · split at hn
    · subst_vars; exact hm
    · exact h.live n hn
  · split at hn
    · exact hv a hn
    · exact h.up n a hn

theorem Forest.mono (h : Forest par refs k) {k' : Nat} (hk : k ≤ k') : Forest par refs k' :=
  ⟨⟨fun n hn => Nat.lt_of_lt_of_le (h.live n hn) hk, fun m n hm => Nat.lt_of_lt_of_le (h.up m n hm) hk⟩,
    h.rootsReg, h.regRoots⟩

theorem Forest.dead (h : Forest par refs k) {n : Nat} (hn : k ≤ n) : par n = .dead :=
  Decidable.by_contra fun hd => by have := h.live n hd; omega

theorem Forest.reg_lt (h : Forest par refs k) {b x y : Nat} (hb : refs b = some (x, y)) :
    x < k ∧ y < k := by
  obtain ⟨hx, hy, _⟩ := h.regRoots b x y hb
  exact ⟨h.live x (by simp [hx]), h.live y (by simp [hy])⟩

theorem Forest.root_cases (h : Forest par refs k) {b x y n : Nat} (hb : refs b = some (x, y))
    (hn : par n = .block b) : n = x ∨ n = y := by
  obtain ⟨x', y', h', hor⟩ := h.rootsReg n b hn
  rw [hb] at h'; cases h'; exact hor

theorem Forest.root_ne (h : Forest par refs k) {b x y z b0 : Nat} (hb : refs b = some (x, y))
    (hz : par z = .block b0) (hne : b0 ≠ b) : z ≠ x ∧ z ≠ y := by
  obtain ⟨hx, hy, _⟩ := h.regRoots b x y hb
  constructor <;> rintro rfl
  · rw [hx] at hz; cases hz; exact hne rfl
  · rw [hy] at hz; cases hz; exact hne rfl

theorem Forest.set_parent (h : Forest par refs k) {m p : Nat} {v : PRef} (hm : par m = .node p)
    (hv : ∀ b, v ≠ .block b) (hvk : ∀ a, v = .node a → a < k) : Forest (fset par m v) refs k := by
  refine ⟨h.toBelow.write (h.live m (by simp [hm])) hvk, fun n b hn => ?_, fun b x y hb => ?_⟩
  all_goals simp only [fset] at *
  · split at hn
    · exact absurd hn (hv b)
    · exact h.rootsReg n b hn
  · obtain ⟨hx, hy, hxy⟩ := h.regRoots b x y hb
    have ne : ∀ {z}, par z = .block b → z ≠ m := fun hz e => by rw [e, hm] at hz; cases hz
    simp [ne hx, ne hy, hx, hy, hxy]

theorem Forest.unroot (h : Forest par refs k) {b sr er : Nat} (hb : refs b = some (sr, er)) {v : PRef}
    (hv : ∀ b, v ≠ .block b) (hvk : ∀ a, v = .node a → a < k) :
    Forest (fset (fset par sr v) er v) (fset refs b none) k := by
  obtain ⟨hsk, hek⟩ := h.reg_lt hb
  refine ⟨(h.toBelow.write hsk hvk).write hek hvk, fun n b0 hn => ?_, fun b0 x y hb0 => ?_⟩
  all_goals simp only [fset] at *
  · split at hn
    · exact absurd hn (hv b0)
    · split at hn
      · exact absurd hn (hv b0)
      · obtain ⟨x, y, hxy, hor⟩ := h.rootsReg n b0 hn
        refine ⟨x, y, ?_, hor⟩
        split
        · subst_vars; rw [hb] at hxy; cases hxy; omega
        · exact hxy
  · split at hb0
    · cases hb0
    · rename_i hne
      obtain ⟨hx, hy, hxy⟩ := h.regRoots b0 x y hb0
      simp [h.root_ne hb hx hne, h.root_ne hb hy hne, hx, hy, hxy]

theorem Forest.register (h : Forest par refs k) {b x y : Nat} (hb : refs b = none)
    (hx : par x = .dead) (hy : par y = .dead) (hxy : x ≠ y) (hxk : x < k) (hyk : y < k) :
    Forest (fset (fset par x (.block b)) y (.block b)) (fset refs b (some (x, y))) k := by
  refine ⟨(h.toBelow.write hxk (by simp)).write hyk (by simp), fun n b0 hn => ?_, fun b0 x0 y0 hb0 => ?_⟩
  all_goals simp only [fset] at *
  · split at hn
    · cases hn; exact ⟨x, y, by simp, by omega⟩
    · split at hn
      · cases hn; exact ⟨x, y, by simp, by omega⟩
      · obtain ⟨x0, y0, h0, hor⟩ := h.rootsReg n b0 hn
        refine ⟨x0, y0, ?_, hor⟩
        split
        · subst_vars; rw [hb] at h0; cases h0
        · exact h0
  · split at hb0
    · cases hb0; subst_vars; simp [hxy]
    · obtain ⟨hx0, hy0, hne⟩ := h.regRoots b0 x0 y0 hb0
      -- an old root is not one of the two nodes that were dead
      have ne : ∀ {z w}, par z = .block b0 → par w = .dead → z ≠ w := fun hz hw e => by
        rw [e, hw] at hz; cases hz
      simp [ne hx0 hx, ne hx0 hy, ne hy0 hx, ne hy0 hy, hx0, hy0, hne]

end

/-- `Inv c ∧ Abs c sp` with `nSyms = N` (`sim_iff`); `Abs` gives `Inv.resolves` -/
structure Sim (N : Nat) (c : RC) (sp : RSpec) : Prop where
  nSyms : c.nSyms = N
  forest : Forest c.parent c.refs c.next
  abs : Abs c sp
  indirect : ∀ s n, c.referents s = some n → c.direct s = none
  symBound : ∀ s, N ≤ s → c.referents s = none ∧ c.direct s = none

variable {N : Nat} {c c' : RC} {sp sp' : RSpec}

theorem Sim.stands_some (h : Sim N c sp) {s n : Nat} (hs : c.referents s = some n) :
    ∃ r b x y, Res c.parent n r b ∧ c.refs b = some (x, y) ∧ sp.ref s = some b ∧
      sp.atEnd s = (r == y) := by
  have := h.abs s
  simpa only [Stands, hs] using this

theorem Sim.stands_none (h : Sim N c sp) {s : Nat} (hs : c.referents s = none) :
    sp.ref s = c.direct s ∧ sp.atEnd s = c.atEnd s := by
  have := h.abs s
  simpa only [Stands, hs] using this

theorem Sim.res_lt (h : Sim N c sp) {n r b : Nat} (hr : Res c.parent n r b) :
    n < c.next := h.forest.live n hr.not_dead

theorem sim_iff : Sim N c sp ↔ Inv c ∧ Abs c sp ∧ c.nSyms = N := by
  constructor
  · intro h
    refine ⟨⟨fun s n hs => ?_, h.forest.rootsReg, h.forest.regRoots, h.indirect, fun n hn => ?_,
      h.nSyms ▸ h.symBound⟩, h.abs, h.nSyms⟩
    · obtain ⟨r, b, _, _, hr, _⟩ := h.stands_some hs
      exact ⟨r, b, hr⟩
    · refine ⟨h.forest.dead hn, fun m hm => ?_, fun s hs => ?_, fun b x y hb => ?_⟩
      · have := h.forest.up m n hm; omega
      · obtain ⟨r, b, _, _, hr, _⟩ := h.stands_some hs
        have := h.res_lt hr; omega
      · have := h.forest.reg_lt hb; omega
  · rintro ⟨hi, ha, rfl⟩
    refine ⟨rfl, ⟨⟨fun n hn => ?_, fun m n hm => ?_⟩, hi.rootsReg, hi.regRoots⟩, ha, hi.indirect,
      hi.symBound⟩
    · exact Decidable.by_contra fun hlt => hn (hi.fresh n (by omega)).1
    · exact Decidable.by_contra fun hlt => (hi.fresh n (by omega)).2.1 m hm

theorem Sim.not_indirect (h : Sim N c sp) {s b : Nat} (hd : c.direct s = some b) :
    c.referents s = none := by
  cases hr : c.referents s with
  | none => rfl
  | some n => rw [h.indirect s n hr] at hd; cases hd

theorem Sim.lt_nSyms (h : Sim N c sp) {s b : Nat} (hs : sp.ref s = some b) :
    s < N := by
  refine Decidable.by_contra fun hlt => ?_
  obtain ⟨h1, h2⟩ := h.symBound s (by omega)
  rw [(h.stands_none h1).1, h2] at hs; cases hs

theorem Sim.unregistered (h : Sim N c sp) {s b : Nat}
    (hb : c.refs b = none) (hs : sp.ref s = some b) : c.referents s = none := by
  cases hr : c.referents s with
  | none => rfl
  | some n =>
    obtain ⟨_, _, _, _, _, p2, p3, _⟩ := h.stands_some hr
    rw [hs] at p3; cases p3; rw [hb] at p2; cases p2

theorem Sim.treeEmpty_iff (h : Sim N c sp) {m : Nat} :
    c.treeEmpty m = true ↔ (∀ k, c.parent k ≠ .node m) ∧ ∀ s, c.referents s ≠ some m := by
  simp only [RC.treeEmpty, RC.children, RC.symbols, h.nSyms, Bool.and_eq_true, List.isEmpty_iff,
    List.filter_eq_nil_iff, List.mem_range, beq_iff_eq]
  refine and_congr ⟨fun hh k hk => hh k (h.forest.live k (by simp [hk])) hk, fun hh k _ => hh k⟩
    ⟨fun hh s hs => hh s ?_ hs, fun hh s _ => hh s⟩
  exact Decidable.by_contra fun hlt => by rw [(h.symBound s (by omega)).1] at hs; cases hs

/-- Every write that touches the node tables only goes through this: what is left to show is
`Forest` of the new tables and that the nodes carrying symbols resolve as before (`hres`). -/
theorem Sim.change_tables (h : Sim N c sp) {K : Nat} {P : Nat → PRef}
    {R : Nat → Option (Nat × Nat)} {L : List Nat} (hf : Forest P R K)
    (hres : ∀ s n r b p, c.referents s = some n → Res c.parent n r b → c.refs b = some p →
      Res P n r b ∧ R b = some p) :
    Sim N { c with next := K, parent := P, refs := R, refBlocks := L } sp := by
  refine ⟨h.nSyms, hf, fun s => ?_, h.indirect, h.symBound⟩
  simp only [Stands]
  cases hs : c.referents s with
  | none => exact h.stands_none hs
  | some n =>
    obtain ⟨r, b, x, y, h1, h2, h3⟩ := h.stands_some hs
    obtain ⟨h1', h2'⟩ := hres s n r b _ hs h1 h2
    exact ⟨r, b, x, y, h1', h2', h3⟩

theorem Sim.set_parent (h : Sim N c sp) {m p : Nat} {v : PRef}
    (hm : c.parent m = .node p) (hv : ∀ b, v ≠ .block b) (hvk : ∀ a, v = .node a → a < c.next)
    (hres : ∀ s n r b, c.referents s = some n → Res c.parent n r b → Res (fset c.parent m v) n r b) :
    Sim N { c with parent := fset c.parent m v } sp :=
  h.change_tables (h.forest.set_parent hm hv hvk) fun s n r b _ hs hr hp => ⟨hres s n r b hs hr, hp⟩

/-- `retire`; `climb` at an empty node -/
theorem Sim.kill (h : Sim N c sp) {m p : Nat}
    (hm : c.parent m = .node p) (he : c.treeEmpty m = true) :
    Sim N { c with parent := fset c.parent m .dead } sp := by
  obtain ⟨nochild, nosym⟩ := h.treeEmpty_iff.mp he
  exact h.set_parent hm (by simp) (by simp) fun s n r b hs hr =>
    Res.kill nochild hr (by rintro rfl; exact nosym s hs)

/-- `adopt`; `climb` at any other node -/
theorem Sim.bypass (h : Sim N c sp) {m p g : Nat}
    (hm : c.parent m = .node p) (hp : c.parent p = .node g) :
    Sim N { c with parent := fset c.parent m (.node g) } sp :=
  h.set_parent hm (by simp) (by rintro a ⟨⟩; exact h.forest.up p g hp) fun _ n r b _ hr =>
    Res.bypass hm hp hr

/-- Stated against any `sp'` that has `(r, ae)` at `s` and is `sp` elsewhere, because it is used
twice: with `sp' = sp.setReferent s r ae` for `set_referent`, and with `sp' = sp` where a symbol that
already stands for `(r, ae)` is made direct (`makeSymDirect`, the end of `get_referent`). -/
theorem setReferent_ok (h : Sim N c sp) {s : Nat} (hs : s < N)
    {r : Option Nat} {ae : Bool} (h1 : sp'.ref s = r) (h2 : sp'.atEnd s = ae)
    (h3 : ∀ s', s' ≠ s → sp'.ref s' = sp.ref s' ∧ sp'.atEnd s' = sp.atEnd s') :
    Sim N (c.setReferent s r ae) sp' := by
  refine ⟨h.nSyms, h.forest, fun s' => ?_, fun s' n hn => ?_, fun s' hs' => ?_⟩
  · by_cases e : s' = s
    · simp [Stands, RC.setReferent, fset, e, h1, h2]
    · have := h.abs s'
      simp only [Stands, RC.setReferent, fset, if_neg e, h3 s' e] at this ⊢
      exact this
  · by_cases e : s' = s <;> simp only [RC.setReferent, fset, e] at hn ⊢
    · simp at hn
    · exact h.indirect s' n hn
  · have e : s' ≠ s := by omega
    simp only [RC.setReferent, fset, if_neg e]
    exact h.symBound s' hs'

theorem setReferent_sim (h : Sim N c sp) {s : Nat} (hs : s < N) (r : Option Nat) (ae : Bool) :
    Sim N (c.setReferent s r ae) (sp.setReferent s r ae) :=
  setReferent_ok h hs fset_same fset_same fun _ e => ⟨fset_other e, fset_other e⟩

theorem indirectify_eq {b sr er : Nat} (hb : c.refs b = some (sr, er)) :
    c.indirectify b = { c with
      referents := fun s => if c.direct s = some b then some (if c.atEnd s then er else sr)
        else c.referents s,
      direct := fun s => if c.direct s = some b then none else c.direct s } := by
  simp [RC.indirectify, hb]

theorem indirectify_ok (h : Sim N c sp) {b sr er : Nat}
    (hb : c.refs b = some (sr, er)) :
    Sim N (c.indirectify b) sp ∧ ∀ s, (c.indirectify b).direct s ≠ some b := by
  rw [indirectify_eq hb]
  obtain ⟨hsr, her, hne⟩ := h.forest.regRoots b sr er hb
  refine ⟨⟨h.nSyms, h.forest, fun s => ?_, fun s n hn => ?_, fun s hs => ?_⟩, fun s => ?_⟩
  · have := h.abs s
    by_cases hd : c.direct s = some b <;> simp only [Stands, hd, ↓reduceIte] at this ⊢
    · simp only [h.not_indirect hd] at this
      cases ha : c.atEnd s
      · exact ⟨sr, b, sr, er, .root hsr, hb, this.1, by simp [this.2, ha, hne]⟩
      · exact ⟨er, b, sr, er, .root her, hb, this.1, by simp [this.2, ha]⟩
    · exact this
  · by_cases hd : c.direct s = some b <;> simp only [hd, ↓reduceIte] at hn ⊢
    exact h.indirect s n hn
  · obtain ⟨h1, h2⟩ := h.symBound s hs
    simp [h1, h2]
  · by_cases hd : c.direct s = some b <;> simp [hd]

theorem newTrees_ok (h : Sim N c sp) {b : Nat} (hb : c.refs b = none) :
    Sim N (c.newTrees b) sp := by
  have hk : c.next ≤ c.next + 2 := by omega
  refine h.change_tables ?_ fun s n r b' p _ hr hp => ⟨?_, ?_⟩
  · exact (h.forest.mono hk).register hb (h.forest.dead (Nat.le_refl _)) (h.forest.dead (by omega))
      (by omega) (by omega) (by omega)
  · have e : ∀ m, c.parent m ≠ .dead → (c.newTrees b).parent m = c.parent m := fun m hm => by
      have := h.forest.live m hm
      simp only [RC.newTrees, fset]
      rw [if_neg (by omega), if_neg (by omega)]
    exact hr.mono (fun m p hp => (e m (by simp [hp])).trans hp)
      (.root ((e r (by simp [hr.root_parent])).trans hr.root_parent))
  · have : b' ≠ b := by rintro rfl; rw [hb] at hp; cases hp
    simp only [fset, if_neg this, hp]

theorem ensureTrees_ok (h : Sim N c sp) (b : Nat) : Sim N (c.ensureTrees b) sp := by
  unfold RC.ensureTrees
  split
  · exact h
  · exact newTrees_ok h ‹_›

theorem ensureTrees_refs (c : RC) (b : Nat) : ∃ x y, (c.ensureTrees b).refs b = some (x, y) := by
  unfold RC.ensureTrees
  split
  · rename_i p hp; exact ⟨p.1, p.2, hp⟩
  · exact ⟨c.next, c.next + 1, by simp [RC.newTrees, fset]⟩

theorem ensureTrees_keeps {b b' : Nat} {p : Nat × Nat} (hp : c.refs b' = some p) :
    (c.ensureTrees b).refs b' = some p := by
  unfold RC.ensureTrees
  split
  · exact hp
  · rename_i hb
    have : b' ≠ b := by rintro rfl; rw [hb] at hp; cases hp
    simp [RC.newTrees, fset, this, hp]

theorem ensureTrees_direct (c : RC) (b : Nat) : (c.ensureTrees b).direct = c.direct := by
  unfold RC.ensureTrees; split <;> rfl

/-- the assignment in the `.ok` branch of `RSpec.retarget` with a target -/
def retargetSpec (sp : RSpec) (b t : Nat) (ae : Bool) : RSpec :=
  { ref := fun x => if sp.ref x = some b then some t else sp.ref x,
    atEnd := fun x => if sp.ref x = some b then ae else sp.atEnd x }

/-- Both branches of `graft`: `P`, `R` may hold nodes and blocks `c` did not have. -/
theorem Sim.graft (h : Sim N c sp) {b t sr er ts te tgt K : Nat}
    {ae : Bool} {P : Nat → PRef} {R : Nat → Option (Nat × Nat)} {L : List Nat}
    (hb : c.refs b = some (sr, er)) (hnd : ∀ s, c.direct s ≠ some b)
    (hf : Forest (fset (fset P sr (.node tgt)) er (.node tgt)) R K) (ht : R t = some (ts, te))
    (htgt : tgt = if ae then te else ts) (hP : ∀ m, m < c.next → P m = c.parent m)
    (hR : ∀ b0 p, b0 ≠ b → c.refs b0 = some p → R b0 = some p) :
    Sim N { c with next := K, parent := fset (fset P sr (.node tgt)) er (.node tgt), refs := R,
                   refBlocks := L } (retargetSpec sp b t ae) := by
  obtain ⟨hts, hte, hne⟩ := hf.regRoots t ts te ht
  obtain ⟨hsr, her, hse⟩ := h.forest.regRoots b sr er hb
  have htg : Res (fset (fset P sr (.node tgt)) er (.node tgt)) tgt tgt t :=
    .root (by subst htgt; cases ae <;> assumption)
  refine ⟨h.nSyms, hf, fun s => ?_, h.indirect, h.symBound⟩
  simp only [Stands, retargetSpec]
  cases hs : c.referents s with
  | none =>
    have q := h.stands_none hs
    have hne' : sp.ref s ≠ some b := by rw [q.1]; exact hnd s
    rw [if_neg hne', if_neg hne']
    exact q
  | some n =>
    obtain ⟨r, b0, x, y, h1, h2, h3, h4⟩ := h.stands_some hs
    have hsame : ∀ m p, c.parent m = .node p →
        fset (fset P sr (.node tgt)) er (.node tgt) m = .node p := fun m p hp => by
      rw [fset_other (by rintro rfl; rw [her] at hp; cases hp),
        fset_other (by rintro rfl; rw [hsr] at hp; cases hp),
        hP m (h.forest.live m (by simp [hp])), hp]
    by_cases hb0 : b0 = b
    · subst hb0
      refine ⟨tgt, t, ts, te, h1.mono hsame ?_, ht, by simp [h3], ?_⟩
      · rcases h.forest.root_cases hb h1.root_parent with rfl | rfl
        · exact .step (by rw [fset_other hse, fset_same]) htg
        · exact .step fset_same htg
      · subst htgt; cases ae <;> simp [h3, hne]
    · have hr := h.forest.root_ne hb h1.root_parent hb0
      have : sp.ref s ≠ some b := by rw [h3]; simpa using hb0
      rw [if_neg this, if_neg this]
      refine ⟨r, b0, x, y, h1.mono hsame (.root ?_), hR b0 _ hb0 h2, h3, h4⟩
      rw [fset_other hr.2, fset_other hr.1, hP r (h.res_lt (.root h1.root_parent))]
      exact h1.root_parent

theorem graft_ok (h : Sim N c sp) {b sr er : Nat} (hb : c.refs b = some (sr, er))
    (hnd : ∀ s, c.direct s ≠ some b) (t : Nat) (ae : Bool) :
    Sim N (c.graft b t ae) (retargetSpec sp b t ae) := by
  unfold RC.graft
  simp only [hb]
  split
  · subst_vars -- `b` is written `t` from here on
    obtain ⟨hs, he⟩ := h.forest.reg_lt hb
    have hk : c.next ≤ c.next + 2 := by omega
    have htg : (if ae then c.next + 1 else c.next) < c.next + 2 := by split <;> omega
    refine h.graft hb hnd ?_ fset_same rfl (fun m hm => ?_) fun b0 p h0 hp => by
      simp [RC.selfTrees, fset, h0, hp]
    · -- the old roots go first, then the block is registered at the two new nodes; the model sets
      -- the same four distinct nodes in the other order
      generalize (if ae then c.next + 1 else c.next) = tgt at htg ⊢
      have hdead : ∀ n, c.next ≤ n → fset (fset c.parent sr (.node tgt)) er (.node tgt) n = .dead :=
        fun n hn => by
          rw [fset_other (by omega), fset_other (by omega)]; exact h.forest.dead hn
      have := ((h.forest.mono hk).unroot hb (v := .node tgt) (by simp) (by rintro a ⟨⟩; exact htg)).register
        (b := t) fset_same (hdead c.next (Nat.le_refl _)) (hdead (c.next + 1) (by omega))
        (Nat.ne_of_lt (Nat.lt_succ_self _)) (by omega) (by omega)
      rw [fset_fset, fset_comm _ (a := er) (b := c.next) (by omega),
        fset_comm _ (a := er) (b := c.next + 1) (by omega),
        fset_comm _ (a := sr) (b := c.next) (by omega),
        fset_comm _ (a := sr) (b := c.next + 1) (by omega)] at this
      exact this
    · simp only [RC.selfTrees]
      rw [fset_other (by omega), fset_other (by omega)]
  · rename_i htb
    obtain ⟨ts, te, ht⟩ := ensureTrees_refs c t
    have h2 := ensureTrees_ok h t
    have hb2 := ensureTrees_keeps (b := t) hb
    have hnd2 : ∀ s, (c.ensureTrees t).direct s ≠ some b := by rw [ensureTrees_direct]; exact hnd
    simp only [ht]
    generalize c.ensureTrees t = c2 at h2 hb2 hnd2 ht ⊢
    have hlt : (if ae then te else ts) < c2.next := by have := h2.forest.reg_lt ht; split <;> omega
    exact h2.graft hb2 hnd2 (h2.forest.unroot hb2 (by simp) (by simpa using hlt))
      (by simpa [RC.detach, fset, htb] using ht) rfl (fun _ _ => rfl) fun b0 p h0 hp => by
        simp [RC.detach, fset, h0, hp]

theorem adopt_eq (root : Nat) : ∀ (kids : List Nat) (c : RC),
    c.adopt root kids = { c with parent := (c.adopt root kids).parent }
  | [], _ => rfl
  | k :: ks, c => by simp only [RC.adopt]; exact adopt_eq root ks _

theorem adopt_ok {node root : Nat} : ∀ (kids : List Nat) {c : RC}, Sim N c sp →
    kids.Nodup → c.parent node = .node root → (∀ k ∈ kids, c.parent k = .node node) →
    Sim N (c.adopt root kids) sp ∧
    ∀ w, (c.adopt root kids).parent w = if w ∈ kids then .node root else c.parent w
  | [], c, h, _, _, _ => ⟨h, fun _ => by simp [RC.adopt]⟩
  | k :: ks, c, h, hnd, hn, hk => by
    obtain ⟨hk1, hk2⟩ := List.nodup_cons.mp hnd
    have hn' : fset c.parent k (.node root) node = .node root := by
      simp only [fset]; split
      · rfl
      · exact hn
    obtain ⟨h2, hp⟩ := adopt_ok ks (h.bypass (hk k List.mem_cons_self) hn) hk2 hn' fun k' hk' => by
      exact (fset_other (by rintro rfl; exact hk1 hk')).trans (hk k' (List.mem_cons_of_mem _ hk'))
    refine ⟨h2, fun w => ?_⟩
    simp only [RC.adopt, hp w, List.mem_cons, fset]
    by_cases hw : w ∈ ks <;> by_cases e : w = k <;> simp [hw, e]

theorem retire_eq (c : RC) (node root : Nat) :
    c.retire node root = { c with parent := (c.retire node root).parent } := by
  unfold RC.retire; split <;> rfl

theorem retire_ok (h : Sim N c sp) (node root : Nat) :
    Sim N (c.retire node root) sp ∧
    ∀ w, (c.retire node root).parent w = c.parent w ∨ (c.retire node root).parent w = .dead := by
  unfold RC.retire
  split
  · rename_i hcond
    simp only [Bool.and_eq_true, beq_iff_eq] at hcond
    exact ⟨h.kill hcond.1 hcond.2, fun w => by simp only [fset]; split <;> simp⟩
  · exact ⟨h, fun _ => .inl rfl⟩

/-- what is known about the symbols yielded so far -/
structure YOK (c : RC) (sp : RSpec) (referent : Nat) (ys : List Nat) : Prop where
  nodup : ys.Nodup
  refer : ∀ y ∈ ys, sp.ref y = some referent
  direct : ∀ y ∈ ys, c.referents y = none

/-- The yielded symbols are exactly the direct ones that refer to the block. Right to left is what makes
exhaustion complete: once both trees are dropped every symbol that refers to the block is direct
(`dropTrees_ok`), hence yielded. -/
structure Yld (c : RC) (sp : RSpec) (referent : Nat) (ys : List Nat) : Prop where
  nodup : ys.Nodup
  mem : ∀ s, s ∈ ys ↔ sp.ref s = some referent ∧ c.referents s = none

theorem Yld.yok {referent : Nat} {ys : List Nat} (h : Yld c sp referent ys) : YOK c sp referent ys :=
  ⟨h.nodup, fun y hy => ((h.mem y).mp hy).1, fun y hy => ((h.mem y).mp hy).2⟩

theorem Yld.step {referent s node : Nat} {ys : List Nat} (ae : Bool)
    (h : Yld c sp referent ys) (hs : c.referents s = some node) (hsp : sp.ref s = some referent) :
    Yld (c.makeSymDirect s referent ae) sp referent (ys ++ [s]) := by
  have hsy : s ∉ ys := fun hm => by rw [((h.mem s).mp hm).2] at hs; cases hs
  refine ⟨List.nodup_append.mpr ⟨h.nodup, by simp, ?_⟩, fun y => ?_⟩
  · intro a ha b hb; simp only [List.mem_singleton] at hb; subst hb; rintro rfl; exact hsy ha
  · simp only [List.mem_append, List.mem_singleton, RC.makeSymDirect, fset, h.mem y]
    by_cases e : y = s
    · simp [e, hsp]
    · simp [e]

/-- `x`, `y`: the roots of the block's trees; `K`: what the consumer asked for -/
structure GenOK (N : Nat) (sp : RSpec) (referent x y K : Nat) (out : GenOut) : Prop where
  sim : Sim N out.c sp
  reg : out.c.refs referent = some (x, y)
  yld : Yld out.c sp referent out.yielded
  total : out.yielded.length + out.budget = K
  susp : out.suspended = true → out.budget = 0
  cont : out.suspended = false → 1 ≤ out.budget

theorem GenOK.resume {referent x y K : Nat} {o : GenOut}
    (g : GenOK N sp referent x y K o) (hs : ¬ o.suspended = true) {c' : RC} (h : Sim N c' sp)
    (e : c' = { o.c with parent := c'.parent }) :
    GenOK N sp referent x y K ⟨c', o.yielded, o.budget, false⟩ := by
  refine ⟨h, ?_, ⟨g.yld.nodup, ?_⟩, g.total, nofun, fun _ => g.cont (by simpa using hs)⟩
  all_goals rw [e]
  · exact g.reg
  · exact g.yld.mem

theorem drainSyms_parent (referent : Nat) (ae : Bool) : ∀ (ss : List Nat) (c : RC) (acc : List Nat)
    (k : Nat), (RC.drainSyms referent ae c ss acc k).c.parent = c.parent
  | [], _, _, _ => rfl
  | s :: ss, c, acc, k => by
    simp only [RC.drainSyms]
    split
    · rfl
    · exact drainSyms_parent referent ae ss _ _ _

theorem drainSyms_ok {referent x y K node : Nat} {ae : Bool} :
    ∀ (ss : List Nat) (c : RC) (acc : List Nat) (k : Nat),
    GenOK N sp referent x y K ⟨c, acc, k, false⟩ → ss.Nodup →
    (∀ s ∈ ss, c.referents s = some node ∧ sp.ref s = some referent ∧ sp.atEnd s = ae) →
    GenOK N sp referent x y K (RC.drainSyms referent ae c ss acc k)
  | [], _, _, _, g, _, _ => g
  | s :: ss, c, acc, k, g, hnd, hss => by
    obtain ⟨hsref, hsp, hsae⟩ := hss s List.mem_cons_self
    have h1 : Sim N (c.makeSymDirect s referent ae) sp :=
      setReferent_ok g.sim (g.sim.lt_nSyms hsp) hsp hsae fun _ _ => ⟨rfl, rfl⟩
    have hy1 := g.yld.step ae hsref hsp
    have hk : 1 ≤ k := g.cont rfl
    have ht : (acc ++ [s]).length + (k - 1) = K := by
      have : acc.length + k = K := g.total
      rw [List.length_append, List.length_singleton]; omega
    simp only [RC.drainSyms]
    by_cases hk1 : k = 1
    · rw [if_pos hk1]
      exact ⟨h1, g.reg, hy1, by rw [hk1] at ht; exact ht, fun _ => rfl, nofun⟩
    · rw [if_neg hk1]
      have hk2 : 1 ≤ k - 1 := by omega
      refine drainSyms_ok (node := node) ss _ _ _
        ⟨h1, g.reg, hy1, ht, nofun, fun _ => hk2⟩ (List.nodup_cons.mp hnd).2
        fun s' hs' => ?_
      obtain ⟨q1, q2⟩ := hss s' (List.mem_cons_of_mem _ hs')
      have hne : s' ≠ s := by rintro rfl; exact (List.nodup_cons.mp hnd).1 hs'
      exact ⟨by simp only [RC.makeSymDirect, fset, if_neg hne]; exact q1, q2⟩

theorem mem_children_iff {k n : Nat} :
    k ∈ c.children n ↔ k < c.next ∧ c.parent k = .node n := by
  simp [RC.children]

theorem mem_symbols_iff {s n : Nat} :
    s ∈ c.symbols n ↔ s < c.nSyms ∧ c.referents s = some n := by
  simp [RC.symbols]

/-- `hW`: the worklist holds only the root, children of the root, or nodes dropped meanwhile (depth
at most one, so `adopt` and `retire` keep it by what they write, with no path to transport). -/
theorem makeDirect_ok {referent K root x y : Nat} {ae : Bool}
    (hroot : root = if ae then y else x) :
    ∀ (fuel : Nat) (c : RC) (work acc : List Nat) (k : Nat),
    GenOK N sp referent x y K ⟨c, acc, k, false⟩ →
    (∀ w ∈ work, w = root ∨ c.parent w = .node root ∨ c.parent w = .dead) →
    GenOK N sp referent x y K (RC.makeDirect referent root ae fuel c work acc k)
  | 0, _, _, _, _, g, _ => g
  | fuel + 1, _, [], _, _, g, _ => g
  | fuel + 1, c, node :: work, acc, k, g, hW => by
    simp only [RC.makeDirect]
    split
    · exact makeDirect_ok hroot fuel c work acc k g fun w hw => hW w (List.mem_cons_of_mem _ hw)
    · rename_i hdead
      have hnode : node = root ∨ c.parent node = .node root :=
        (hW node List.mem_cons_self).imp_right (·.resolve_right (by simpa using hdead))
      obtain ⟨c1, hc1, h1, e1, hp1⟩ : ∃ c1,
          c1 = (if node = root then c else c.adopt root (c.children node)) ∧ Sim N c1 sp ∧
          c1 = { c with parent := c1.parent } ∧
          ∀ w, c1.parent w = if w ∈ c.children node then .node root else c.parent w := by
        by_cases hnr : node = root
        · refine ⟨c, by simp [hnr], g.sim, rfl, fun w => ?_⟩
          split
          · rw [(mem_children_iff.mp ‹_›).2, hnr]
          · rfl
        · obtain ⟨a1, a2⟩ := adopt_ok (c.children node) g.sim ((List.nodup_range).filter _)
            (hnode.resolve_left hnr) fun k hk => (mem_children_iff.mp hk).2
          exact ⟨_, by simp [hnr], a1, adopt_eq _ _ _, a2⟩
      rw [← hc1]
      have g1 := g.resume (by simp) h1 e1
      obtain ⟨hx, hy, hxy⟩ := h1.forest.regRoots _ _ _ g1.reg
      have hr1 : Res c1.parent root root referent := .root (by rw [hroot]; split <;> assumption)
      have hnode1 : Res c1.parent node root referent := by
        rcases hnode with e | e
        · rw [e]; exact hr1
        · refine .step ?_ hr1
          rw [hp1 node]; split
          · rfl
          · exact e
      have hsyms : ∀ s ∈ c1.symbols node, c1.referents s = some node ∧
          sp.ref s = some referent ∧ sp.atEnd s = ae := by
        intro s hs
        have hsref := (mem_symbols_iff.mp hs).2
        obtain ⟨r, b0, x', y', q1, q2, q3, q4⟩ := h1.stands_some hsref
        obtain ⟨rfl, rfl⟩ := Res.det q1 hnode1
        rw [g1.reg] at q2; cases q2
        refine ⟨hsref, q3, ?_⟩
        rw [q4, hroot]; cases ae <;> simp [hxy]
      have d := drainSyms_ok (c1.symbols node) c1 acc k g1 ((List.nodup_range).filter _) hsyms
      have hp := drainSyms_parent referent ae (c1.symbols node) c1 acc k
      generalize RC.drainSyms referent ae c1 (c1.symbols node) acc k = out at d hp ⊢
      split
      · exact d
      · -- `hW` again: a worklist node was there before, or is a child of `node` (adopted by the
        -- root), or has been dropped just now
        rename_i hs
        obtain ⟨t1, tp⟩ := retire_ok d.sim node root
        have t2 := retire_eq out.c node root
        generalize out.c.retire node root = c2 at t1 tp t2 ⊢
        refine makeDirect_ok hroot fuel c2 ((c.children node).reverse ++ work) out.yielded
          out.budget (d.resume hs t1 t2) fun w hw => ?_
        rcases tp w with e | e
        · rw [e, hp, hp1 w]
          split
          · exact .inr (.inl rfl)
          · exact hW w (List.mem_cons_of_mem _
              ((List.mem_append.mp hw).resolve_left fun hk => ‹w ∉ _› (List.mem_reverse.mp hk)))
        · exact .inr (.inr e)

theorem dropTrees_ok (h : Sim N c sp) {block sr er : Nat}
    (hb : c.refs block = some (sr, er)) (h1 : c.treeEmpty sr = true) (h2 : c.treeEmpty er = true) :
    Sim N (c.dropTrees block sr er) sp ∧ (∀ s, sp.ref s = some block → c.referents s = none) := by
  obtain ⟨nc1, ns1⟩ := h.treeEmpty_iff.mp h1
  obtain ⟨nc2, ns2⟩ := h.treeEmpty_iff.mp h2
  -- no node that carries a symbol resolves to the block: its root, `sr` or `er`, has no child, so
  -- the node would be that root
  have hno : ∀ s n r, c.referents s = some n → ¬ Res c.parent n r block := by
    intro s n r hs hr
    rcases h.forest.root_cases hb hr.root_parent with rfl | rfl
    · exact ns1 s (hr.eq_of_childless nc1 ▸ hs)
    · exact ns2 s (hr.eq_of_childless nc2 ▸ hs)
  constructor
  · refine h.change_tables (h.forest.unroot hb (by simp) (by simp)) ?_
    intro s n r b p hs hr hp
    have hb0 : b ≠ block := by rintro rfl; exact hno s n r hs hr
    refine ⟨?_, by simp [fset, hb0, hp]⟩
    refine Res.kill (fun k => ?_) (Res.kill nc1 hr (by rintro rfl; exact ns1 s hs))
      (by rintro rfl; exact ns2 s hs)
    simp only [fset]; split
    · simp
    · exact nc2 k
  · intro s hs
    cases hr : c.referents s with
    | none => rfl
    | some n =>
      obtain ⟨r, b, _, _, p1, _, p3, _⟩ := h.stands_some hr
      rw [hs] at p3; cases p3
      exact absurd p1 (hno s n r hr)

theorem directRefs_yld (h : Sim N c sp) (b : Nat) :
    Yld c sp b (c.directRefs b) := by
  refine ⟨(List.nodup_range).filter _, fun s => ?_⟩
  simp only [RC.directRefs, List.mem_filter, List.mem_range, beq_iff_eq]
  constructor
  · rintro ⟨_, hd⟩
    have hr := h.not_indirect hd
    exact ⟨by rw [(h.stands_none hr).1, hd], hr⟩
  · rintro ⟨hs, hr⟩
    exact ⟨h.nSyms ▸ h.lt_nSyms hs, by rw [← (h.stands_none hr).1, hs]⟩

/-- **get_references, consumed to any prefix and then abandoned** -/
theorem getReferences_ok {block k : Nat} {ys : List Nat}
    (h : Sim N c sp) (hg : c.getReferences block k = some (c', ys)) :
    Sim N c' sp ∧ YOK c' sp block ys ∧ ys.length ≤ k ∧
    (ys.length < k → ∀ s, sp.ref s = some block → s ∈ ys) := by
  unfold RC.getReferences at hg
  have hyd := directRefs_yld h block
  by_cases hk0 : k = 0
  · rw [if_pos hk0] at hg
    cases hg; subst hk0
    exact ⟨h, ⟨.nil, nofun, nofun⟩, Nat.le_refl _, nofun⟩
  rw [if_neg hk0] at hg
  simp only [] at hg
  by_cases hle : k ≤ (c.directRefs block).length
  · rw [if_pos hle] at hg
    cases hg
    exact ⟨h, ⟨hyd.yok.nodup.sublist (List.take_sublist _ _),
        fun y hy => hyd.yok.refer y (List.mem_of_mem_take hy),
        fun y hy => hyd.yok.direct y (List.mem_of_mem_take hy)⟩,
      by simp only [List.length_take]; omega, by simp only [List.length_take]; omega⟩
  rw [if_neg hle] at hg
  cases hb : c.refs block with
  | none =>
    simp only [hb] at hg
    cases hg
    exact ⟨h, hyd.yok, by omega, fun _ s hs => (hyd.mem s).mpr ⟨hs, h.unregistered hb hs⟩⟩
  | some p =>
    obtain ⟨sr, er⟩ := p
    simp only [hb] at hg
    have stopped : ∀ o : GenOut, GenOK N sp block sr er k o → o.suspended = true →
        Sim N o.c sp ∧ YOK o.c sp block o.yielded ∧ o.yielded.length ≤ k ∧
        (o.yielded.length < k → ∀ s, sp.ref s = some block → s ∈ o.yielded) := fun o g hs => by
      have := g.total; have := g.susp hs
      exact ⟨g.sim, g.yld.yok, by omega, by omega⟩
    have hlt : (c.directRefs block).length < k := Nat.lt_of_not_le hle
    have g0 : GenOK N sp block sr er k ⟨c, c.directRefs block, k - (c.directRefs block).length, false⟩ :=
      ⟨h, hb, hyd, Nat.add_sub_cancel' (Nat.le_of_lt hlt), nofun, fun _ => Nat.sub_pos_of_lt hlt⟩
    have g1 := makeDirect_ok (root := sr) (ae := false) (by simp) (c.next + 1) c [sr] _ _ g0
      fun w hw => .inl (List.mem_singleton.mp hw)
    generalize RC.makeDirect block sr false (c.next + 1) c [sr] (c.directRefs block)
      (k - (c.directRefs block).length) = o1 at g1 hg
    by_cases hs1 : o1.suspended = true
    · rw [if_pos hs1] at hg
      cases hg
      exact stopped o1 g1 hs1
    rw [if_neg hs1] at hg
    have g2 := makeDirect_ok (root := er) (ae := true) (by simp) (c.next + 1) o1.c [er]
      o1.yielded o1.budget (g1.resume hs1 g1.sim rfl)
      fun w hw => .inl (List.mem_singleton.mp hw)
    generalize RC.makeDirect block er true (c.next + 1) o1.c [er] o1.yielded o1.budget = o2
      at g2 hg
    by_cases hs2 : o2.suspended = true
    · rw [if_pos hs2] at hg
      cases hg
      exact stopped o2 g2 hs2
    rw [if_neg hs2] at hg
    split at hg
    · rename_i hempty
      cases hg
      simp only [Bool.and_eq_true] at hempty
      obtain ⟨d1, d2⟩ := dropTrees_ok g2.sim g2.reg hempty.1 hempty.2
      have := g2.total
      exact ⟨d1, ⟨g2.yld.yok.nodup, g2.yld.yok.refer, g2.yld.yok.direct⟩, by omega,
        fun _ s hs => (g2.yld.mem s).mpr ⟨hs, d2 s hs⟩⟩
    · cases hg

theorem retargetSpec_noop {b t : Nat} {ae : Bool} (h : ∀ s, sp.ref s ≠ some b) :
    retargetSpec sp b t ae = sp := by
  cases sp with
  | mk ref atEnd =>
    simp only [retargetSpec, RSpec.mk.injEq]
    constructor <;> funext x <;> simp [h x]

theorem Sim.spec_all_iff (h : Sim N c sp) (b : Nat) :
    (List.range N).all (fun x => sp.ref x != some b) = true ↔ ∀ s, sp.ref s ≠ some b := by
  simp only [List.all_eq_true, List.mem_range, bne_iff_ne, ne_eq]
  exact ⟨fun hh s hs => hh s (h.lt_nSyms hs) hs, fun hh s _ => hh s⟩

/-- **retarget_references refines assigning directly** (including the refusal
`assert to_block` exactly when something refers to the block) -/
theorem retarget_refines (h : Sim N c sp) (b : Nat) (to : Option Nat)
    (ae : Bool) :
    (∀ c', c.retarget b to ae = .ok c' → ∃ sp', sp.retarget N b to ae = .ok sp' ∧ Sim N c' sp') ∧
    (c.retarget b to ae = .error .assertion → sp.retarget N b to ae = .error .assertion) := by
  have hnone : ∀ {c' : RC}, Sim N c' sp → (∀ s, sp.ref s ≠ some b) →
      ∃ sp', sp.retarget N b to ae = .ok sp' ∧ Sim N c' sp' :=
    fun h' hn => ⟨sp, by simp [RSpec.retarget, (h.spec_all_iff b).mpr hn], h'⟩
  unfold RC.retarget
  split
  · rename_i hearly
    simp only [Bool.and_eq_true, List.isEmpty_iff, Option.isNone_iff_eq_none] at hearly
    refine ⟨fun c' hc => ?_, fun hc => by cases hc⟩
    cases hc
    refine hnone h fun s hs => ?_
    have := ((directRefs_yld h b).mem s).mpr ⟨hs, h.unregistered hearly.2 hs⟩
    rw [hearly.1] at this; cases this
  cases to with
  | none =>
    simp only []
    cases hg : c.getReferences b 1 with
    | none => exact ⟨fun c' hc => (by cases hc), fun hc => (by cases hc)⟩
    | some p =>
      obtain ⟨c1, ys⟩ := p
      obtain ⟨g1, g2, _, g4⟩ := getReferences_ok h hg
      cases ys with
      | nil =>
        refine ⟨fun c' hc => ?_, fun hc => (by cases hc)⟩
        cases hc
        exact hnone g1 fun s hs => by have := g4 (by simp) s hs; cases this
      | cons y ys =>
        refine ⟨fun c' hc => (by cases hc), fun _ => ?_⟩
        have : ¬ ((List.range N).all (fun x => sp.ref x != some b) = true) :=
          fun hh => (h.spec_all_iff b).mp hh y (g2.refer y List.mem_cons_self)
        simp [RSpec.retarget, this]
  | some t =>
    refine ⟨fun c' hc => ?_, fun hc => by cases hc⟩
    cases hc
    obtain ⟨sr, er, hb1⟩ := ensureTrees_refs c b
    obtain ⟨h2, hnd⟩ := indirectify_ok (ensureTrees_ok h b) hb1
    have r := graft_ok h2 (by rw [indirectify_eq hb1]; exact hb1) hnd t ae
    by_cases hall : (List.range N).all (fun x => sp.ref x != some b) = true
    · rw [retargetSpec_noop ((h.spec_all_iff b).mp hall)] at r
      exact hnone r ((h.spec_all_iff b).mp hall)
    · exact ⟨retargetSpec sp b t ae, by simp [RSpec.retarget, hall, retargetSpec], r⟩

theorem climb_ok {r b : Nat} :
    ∀ (fuel ref : Nat) (par : Nat → PRef), Sim N (c.withParent par) sp → Res par ref r b →
    ∀ root b' par', RC.climb c fuel ref par = some (root, b', par') →
      root = r ∧ b' = b ∧ Sim N (c.withParent par') sp
  | 0, _, _, _, _, _, _, _, hc => by cases hc
  | fuel + 1, ref, par, h, hres, root, b', par', hc => by
    simp only [RC.climb] at hc
    cases hres with
    | root hp =>
      simp only [hp] at hc
      cases hc
      exact ⟨rfl, rfl, h⟩
    | @step _ p _ _ hp hresp =>
      simp only [hp] at hc
      split at hc
      · rename_i hempty
        have nochild := (h.treeEmpty_iff.mp hempty).1
        exact climb_ok fuel p _ (h.kill hp hempty)
          (Res.kill nochild hresp (by rintro rfl; exact nochild _ hp)) root b' par' hc
      · cases hresp with
        | root hpp =>
          simp only [hpp] at hc
          exact climb_ok fuel _ par h (.root hpp) root b' par' hc
        | @step _ g _ _ hpp hresg =>
          simp only [hpp] at hc
          exact climb_ok fuel p _ (h.bypass hp hpp) (Res.bypass hp hpp (.step hpp hresg))
            root b' par' hc

/-- **get_referent returns what assigning directly would have stored** -/
theorem getReferent_ok {s : Nat} {res : Option Nat}
    (h : Sim N c sp) (hg : c.getReferent s = .ok (res, c')) :
    res = sp.ref s ∧ Sim N c' sp ∧ c'.referents s = none := by
  unfold RC.getReferent at hg
  split at hg
  · rename_i hr
    cases hg
    exact ⟨(h.stands_none hr).1.symm, h, hr⟩
  · rename_i n hr
    obtain ⟨r, b, x, y, p1, p2, p3, p4⟩ := h.stands_some hr
    have hs : s < N := h.lt_nSyms p3
    have h1 := setReferent_sim h hs none (c.atEnd s)
    simp only [] at hg
    split at hg
    · cases hg
    · rename_i root b' par' hc
      obtain ⟨rfl, rfl, t⟩ := climb_ok (c := c.setReferent s none (c.atEnd s)) (c.next + 1) n
        c.parent h1 p1 root b' par' hc
      simp only [show (c.setReferent s none (c.atEnd s)).refs = c.refs from rfl, p2] at hg
      cases hg
      have u := setReferent_ok t hs p3 p4 fun _ e =>
        ⟨(fset_other e).symm, (fset_other e).symm⟩
      exact ⟨p3.symm, u, by simp [RC.setReferent, fset]⟩

/-- `get_referent` has no refusal: the model's only errors are fuel errors -/
theorem getReferent_ne_assertion (c : RC) (s : Nat) : c.getReferent s ≠ .error .assertion := by
  unfold RC.getReferent
  split
  · nofun
  · simp only []
    split
    · nofun
    · split <;> nofun

theorem drainBlocks_ok : ∀ (bs : List Nat) (c c' : RC), Sim N c sp →
    RC.drainBlocks bs c = some c' → Sim N c' sp
  | [], c, c', h, hd => by cases hd; exact h
  | b :: bs, c, c', h, hd => by
    simp only [RC.drainBlocks] at hd
    split at hd
    · cases hd
    · rename_i c1 _ hg
      exact drainBlocks_ok bs c1 c' (getReferences_ok h hg).1 hd

/-- **apply() makes every reference direct without changing what any symbol
stands for** -/
theorem apply_ok (h : Sim N c sp) (ha : c.apply = some c') :
    Sim N c' sp ∧ (∀ s, c'.referents s = none) ∧
    (∀ s, c'.direct s = sp.ref s ∧ c'.atEnd s = sp.atEnd s) := by
  unfold RC.apply at ha
  split at ha
  · cases ha
  rename_i c1 hd
  have h1 := drainBlocks_ok _ c c1 h hd
  split at ha
  · rename_i hall
    cases ha
    have hnone : ∀ s, c1.referents s = none := fun s => by
      by_cases hlt : s < N
      · simp only [RC.allDirect, h1.nSyms, List.all_eq_true, List.mem_range,
          Option.isNone_iff_eq_none] at hall
        exact hall s hlt
      · exact (h1.symBound s (by omega)).1
    have hf : Forest c1.clearAll.parent c1.clearAll.refs c1.clearAll.next := by
      refine ⟨⟨?_, ?_⟩, ?_, ?_⟩ <;> simp [RC.clearAll]
    exact ⟨h1.change_tables hf fun s _ _ _ _ hs => (by rw [hnone s] at hs; cases hs), hnone,
      fun s => ⟨(h1.stands_none (hnone s)).1.symm, (h1.stands_none (hnone s)).2.symm⟩⟩
  · cases ha

end GtirbVerif.Adt
