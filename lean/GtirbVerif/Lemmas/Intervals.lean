import GtirbVerif.Model.Intervals.SplitJoin
import GtirbVerif.Lemmas.Basics

/-!
# split_byte_interval / join_byte_intervals round trip (C10), the split side

`WF` is the invariant of the split loop: a cut keeps it and is undone by `joinPlain`, up to the order of the
table entries (`Same`) - that is `WF.cut` -, so the pieces glue back to the interval (`split_glue`).
-/

namespace GtirbVerif.Intervals

/-- equal up to the order in which blocks and entries are listed -/
structure Same (a b : Iv) : Prop where
  addr : a.addr = b.addr
  size : a.size = b.size
  contents : a.contents = b.contents
  blocks : a.blocks.Perm b.blocks
  anns : a.anns.Perm b.anns

theorem Same.refl (a : Iv) : Same a a := ⟨rfl, rfl, rfl, List.Perm.refl _, List.Perm.refl _⟩

theorem Same.trans {a b c : Iv} (h1 : Same a b) (h2 : Same b c) : Same a c :=
  ⟨h1.addr.trans h2.addr, h1.size.trans h2.size, h1.contents.trans h2.contents, h1.blocks.trans h2.blocks,
   h1.anns.trans h2.anns⟩

/-- appending without any padding -/
def joinPlain (d s : Iv) : Iv :=
  { d with size := d.size + s.size, contents := d.contents ++ s.contents,
           blocks := d.blocks ++ s.blocks.map (fun b => { b with off := b.off + d.contents.length }),
           anns := d.anns ++ s.anns.map (fun a => { a with off := a.off + d.contents.length }) }

theorem joinPlain_congr {d d' : Iv} (s : Iv) (h : Same d d') : Same (joinPlain d s) (joinPlain d' s) := by
  unfold joinPlain
  rw [h.contents]
  exact ⟨h.addr, congrArg (· + s.size) h.size, rfl, h.blocks.append_right _, h.anns.append_right _⟩

def Full (iv : Iv) : Prop := iv.contents.length = iv.size

theorem Blk.down_up (b : Blk) {c : Nat} (h : c ≤ b.off) :
    ({ ({ b with off := b.off - c } : Blk) with off := b.off - c + c } : Blk) = b := by
  cases b
  simp only [Blk.mk.injEq, true_and, and_true]
  exact Nat.sub_add_cancel h

theorem Ann.down_up (a : Ann) {c : Nat} (h : c ≤ a.off) :
    ({ ({ a with off := a.off - c } : Ann) with off := a.off - c + c } : Ann) = a := by
  cases a
  simp only [Ann.mk.injEq, true_and, and_true]
  exact Nat.sub_add_cancel h

theorem cut_then_join (iv : Iv) (front g : List Blk) (hb : iv.blocks = front ++ g)
    (hge : ∀ b ∈ g, beginOf g ≤ b.off) (hf : Full iv) (hc : beginOf g ≤ iv.size) :
    Same (joinPlain (cutOne iv g).1 (cutOne iv g).2) iv := by
  unfold Full at hf
  simp only [joinPlain, cutOne]
  generalize beginOf g = c at *
  have hlen : (iv.contents.take c).length = c := by rw [List.length_take]; omega
  have hblk : (g.map fun b => { b with off := b.off - c }).map (fun b => { b with off := b.off + c }) = g := by
    rw [List.map_map]
    exact map_eq_self fun b hm => b.down_up (hge b hm)
  have hann : ((iv.anns.filter (fun a => a.off ≥ c)).map fun a => { a with off := a.off - c }).map
      (fun a => { a with off := a.off + c }) = iv.anns.filter (fun a => !decide (a.off < c)) := by
    rw [List.map_map, map_eq_self fun a hm => a.down_up (by simpa using (List.mem_filter.mp hm).2)]
    exact List.filter_congr fun a _ => by simp only [ge_iff_le, ← Nat.not_lt, decide_not]
  refine ⟨rfl, ?_, ?_, ?_, ?_⟩ <;> simp only [hlen]
  · omega
  · exact List.take_append_drop ..
  · rw [hblk, hb, List.length_append, Nat.add_sub_cancel, List.take_left' rfl]
  · -- the entries in front of `c` and those at or behind it are all entries
    rw [hann]
    exact List.filter_append_perm ..

theorem cutOne_full (iv : Iv) (g : List Blk) (hf : Full iv) : Full (cutOne iv g).1 ∧ Full (cutOne iv g).2 := by
  unfold Full at *
  unfold cutOne
  simp only [List.length_take, List.length_drop, hf, and_true]
  exact Nat.min_comm _ _

theorem cutOne_blocks (iv : Iv) (front g : List Blk) (hb : iv.blocks = front ++ g) : (cutOne iv g).1.blocks = front := by
  unfold cutOne
  simp only [hb, List.length_append, Nat.add_sub_cancel, List.take_left']

/-- blocks listed in increasing offset order and lying inside the interval -/
structure WF (iv : Iv) : Prop where
  full : Full iv
  sorted : iv.blocks.Pairwise (fun a b => a.off ≤ b.off)
  inside : ∀ b ∈ iv.blocks, b.off ≤ iv.size

theorem beginOf_le {g : List Blk} (hp : g.Pairwise (fun a b => a.off ≤ b.off)) : ∀ b ∈ g, beginOf g ≤ b.off := by
  cases g with
  | nil => exact fun _ hb => nomatch hb
  | cons h t => exact List.forall_mem_cons.mpr ⟨Nat.le_refl h.off, (List.pairwise_cons.mp hp).1⟩

theorem beginOf_mem {g : List Blk} (hne : g ≠ []) : ∃ b ∈ g, beginOf g = b.off := by
  cases g with
  | nil => exact absurd rfl hne
  | cons h t => exact ⟨h, List.mem_cons_self, rfl⟩

/-- one cut of a well-formed interval: what stays is well formed, what is cut off is fully initialized, and
appending it again undoes the cut -/
theorem WF.cut {iv : Iv} {front g : List Blk} (h : WF iv) (hb : iv.blocks = front ++ g) (hne : g ≠ []) :
    WF (cutOne iv g).1 ∧ Full (cutOne iv g).2 ∧ Same (joinPlain (cutOne iv g).1 (cutOne iv g).2) iv := by
  have ⟨hfront, hg, hcross⟩ := List.pairwise_append.mp (hb ▸ h.sorted)
  have ⟨hf1, hf2⟩ := cutOne_full iv g h.full
  -- the cut is at the offset of a block of `g`: inside the interval, and not before any block in front
  obtain ⟨b0, hb0, he⟩ := beginOf_mem hne
  refine ⟨⟨hf1, cutOne_blocks iv front g hb ▸ hfront, fun b hm => ?_⟩, hf2,
    cut_then_join iv front g hb (beginOf_le hg) h.full (he ▸ h.inside b0 (hb ▸ List.mem_append_right _ hb0))⟩
  rw [cutOne_blocks iv front g hb] at hm
  have := h.inside b (hb ▸ List.mem_append_left _ hm)
  have := hcross b hm b0 hb0
  show b.off ≤ min iv.size (beginOf g)
  omega

theorem foldl_joinPlain_congr (rest : List Iv) {d d' : Iv} (h : Same d d') :
    Same (rest.foldl joinPlain d) (rest.foldl joinPlain d') := by
  induction rest generalizing d d' with
  | nil => exact h
  | cons s rest ih => simp only [List.foldl_cons]; exact ih (joinPlain_congr s h)

/-- `gs`: the groups still to be cut off, last first -/
theorem splitAt_glue : ∀ (gs : List (List Blk)) (iv : Iv) (front : List Blk) (acc : List Iv), WF iv →
    iv.blocks = front ++ gs.reverse.flatten → (∀ g ∈ gs, g ≠ []) → (∀ a ∈ acc, Full a) →
    ∃ d rest, splitAt iv gs acc = d :: rest ∧ (∀ x ∈ d :: rest, Full x) ∧
      Same (rest.foldl joinPlain d) (acc.foldl joinPlain iv) := by
  intro gs
  induction gs with
  | nil => intro iv front acc h _ _ ha; exact ⟨iv, acc, rfl, List.forall_mem_cons.mpr ⟨h.full, ha⟩, Same.refl _⟩
  | cons g gs ih =>
    intro iv front acc h hb hne ha
    have hb' : iv.blocks = (front ++ gs.reverse.flatten) ++ g := by
      rw [hb]; simp [List.reverse_cons, List.flatten_append]
    obtain ⟨hw, hf2, hcut⟩ := h.cut hb' (hne g List.mem_cons_self)
    obtain ⟨d, rest, hr, hf, hs⟩ := ih (cutOne iv g).1 front ((cutOne iv g).2 :: acc) hw (cutOne_blocks iv _ g hb')
      (fun g' hg' => hne g' (List.mem_cons_of_mem _ hg')) (List.forall_mem_cons.mpr ⟨hf2, ha⟩)
    exact ⟨d, rest, hr, hf, hs.trans (foldl_joinPlain_congr acc hcut)⟩

theorem groupRuns_spec (bs cur : List Blk) (e : Nat) :
    (groupRuns bs cur e).flatten = cur.reverse ++ bs ∧ ∀ g ∈ groupRuns bs cur e, g ≠ [] := by
  induction bs, cur, e using groupRuns.induct with
  | case1 cur e h => simp [groupRuns, List.isEmpty_iff.mp h]
  | case2 cur e h =>
    have hne : cur ≠ [] := by simpa using h
    simp [groupRuns, h, hne]
  | case3 b bs cur e h ih => simpa [groupRuns, List.isEmpty_iff.mp h] using ih
  | case4 b bs cur e h he ih =>
    have hne : cur ≠ [] := by simpa using h
    simpa [groupRuns, h, he, hne] using ih
  | case5 b bs cur e h he ih => simpa [groupRuns, h, he] using ih

theorem split_glue (iv : Iv) (h : WF iv) :
    ∃ d rest, split iv = d :: rest ∧ (∀ x ∈ d :: rest, Full x) ∧ Same (rest.foldl joinPlain d) iv := by
  obtain ⟨hflat, hne⟩ : (groups iv).flatten = iv.blocks ∧ ∀ g ∈ groups iv, g ≠ [] := groupRuns_spec iv.blocks [] 0
  unfold split
  cases hgs : groups iv with
  | nil => exact ⟨iv, [], rfl, List.forall_mem_cons.mpr ⟨h.full, fun _ ha => nomatch ha⟩, Same.refl _⟩
  | cons g0 rest =>
    rw [hgs] at hflat hne
    exact splitAt_glue rest.reverse iv g0 [] h (by rw [List.reverse_reverse]; exact hflat.symm)
      (fun g hg => hne g (List.mem_cons_of_mem _ (List.mem_reverse.mp hg))) (fun _ ha => nomatch ha)

end GtirbVerif.Intervals
