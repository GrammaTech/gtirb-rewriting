import GtirbVerif.Model.Abi.Call
import GtirbVerif.Lemmas.Basics
-- `^` on `Int` in `x86ArgValid` and in the statements of C17 is Mathlib's `Monoid.npow`; core alone would read it as `Int.pow`
import Mathlib.Algebra.Group.Int.Defs

/-! The x86 call sequence of `_CallPatchX86.get_asm` run on the machine, for arbitrary padding,
shadow space and cleanup (`x86_seq_at`); ARM64 `_load_immediate` in closed form
(`crun_loadImmediate`). -/
namespace GtirbVerif.Abi

theorem passedArgs_get (regs : List String) (args : List ArgVal) (i : Nat) :
    (passedArgs regs args)[i]? = args[i]?.map (fun a => (a, regs[i]?)) := by
  induction args generalizing regs i with
  | nil => simp [passedArgs]
  | cons a as ih => cases regs <;> cases i <;> simp [passedArgs, ih]

theorem passedArgs_length (regs : List String) (args : List ArgVal) :
    (passedArgs regs args).length = args.length := by
  induction args generalizing regs with
  | nil => simp [passedArgs]
  | cons a as ih => cases regs <;> simp [passedArgs, ih]

theorem alignUp_spec (x a : Nat) (ha : 0 < a) :
    alignUp x a % a = 0 ∧ x ≤ alignUp x a ∧ alignUp x a < x + a := by
  rw [alignUp, if_neg (by omega)]
  exact roundUp_spec x a ha

section
variable {env : SymEnv} {W lo hi cp : Int}

theorem crun_append (a b : List CInstr) (σ : CM) :
    crun env W lo hi cp (a ++ b) σ = crun env W lo hi cp a σ >>= crun env W lo hi cp b := by
  induction a generalizing σ with
  | nil => rfl
  | cons i is ih =>
    simp only [List.cons_append, crun]
    cases cstep env W lo hi cp i σ with
    | error e => rfl
    | ok σ' => exact ih σ'

theorem crun_snoc {l : List CInstr} {σ σ1 : CM} (i : CInstr) (h : crun env W lo hi cp l σ = .ok σ1) :
    crun env W lo hi cp (l ++ [i]) σ = cstep env W lo hi cp i σ1 := by
  rw [crun_append, h]
  show crun env W lo hi cp [i] σ1 = _
  simp only [crun]
  cases cstep env W lo hi cp i σ1 <;> rfl

/-- `if n: sub sp, n`, as `get_asm` writes it -/
def optSub (n : Nat) : List CInstr := if n != 0 then [.subSp n] else []

/-- `if n: add sp, n` -/
def optAdd (n : Nat) : List CInstr := if n != 0 then [.addSp n] else []

theorem crun_optSub (n : Nat) (σ : CM) :
    crun env W lo hi cp (optSub n) σ = .ok { σ with sp := σ.sp - n } := by
  by_cases h : n = 0 <;> simp [optSub, h, crun, cstep]

theorem crun_optAdd (n : Nat) (σ : CM) :
    crun env W lo hi cp (optAdd n) σ = .ok { σ with sp := σ.sp + n } := by
  by_cases h : n = 0 <;> simp [optAdd, h, crun, cstep]

end

theorem chunk16_cast (v : Int) (s : Nat) : (chunk16 v s : Int) = v / 2 ^ s % 65536 :=
  Int.toNat_of_nonneg (Int.emod_nonneg _ (by decide))

theorem emod_mul_digit (x b m : Int) (hb : 0 < b) : x % (b * m) = x % b + b * (x / b % m) := by
  rw [Int.emod_def, Int.emod_def x b, Int.emod_def (x / b) m, ← Int.ediv_ediv_of_nonneg (Int.le_of_lt hb),
    Int.mul_sub, Int.mul_assoc]
  omega

theorem chunk16_step (v : Int) (s : Nat) :
    v % 2 ^ (s + 16) = v % 2 ^ s + (chunk16 v s : Int) * 2 ^ s := by
  have hpos : (0 : Int) < 2 ^ s := Int.pow_pos (by decide)
  rw [chunk16_cast, pow_add, emod_mul_digit v _ _ hpos, Int.mul_comm,
    show (2 : Int) ^ 16 = 65536 from rfl]

theorem setReg_setReg (f : String → Int) (r : String) (a b : Int) :
    setReg (setReg f r a) r b = setReg f r b := by
  funext x
  simp only [setReg]
  split <;> rfl

theorem setReg_self (f : String → Int) (r : String) : setReg f r (f r) = f := by
  funext x
  simp only [setReg]
  split
  · rename_i h; rw [h]
  · rfl

/-- the optional `movk`s of `loadImmediate`: its three `if chunk16 v sh != 0 …` are
`movks r v 16 3` -/
def movks (r : String) (v : Int) : Nat → Nat → List CInstr
  | _, 0 => []
  | sh, n + 1 =>
    (if chunk16 v sh != 0 then [CInstr.movk r (chunk16 v sh) sh] else []) ++ movks r v (sh + 16) n

section
variable {env : SymEnv} {W lo hi cp : Int}

/-- a zero chunk adds nothing to the bits below `sh`, so leaving its `movk` out loses nothing -/
theorem crun_movk_opt (r : String) (v : Int) (sh : Nat) (σ : CM) (hp : σ.reg r = v % 2 ^ sh) :
    crun env W lo hi cp
        (if chunk16 v sh != 0 then [CInstr.movk r (chunk16 v sh) sh] else []) σ =
      .ok { σ with reg := setReg σ.reg r (v % 2 ^ (sh + 16)) } := by
  have hpos : (0 : Int) < 2 ^ sh := Int.pow_pos (by decide)
  rw [chunk16_step]
  by_cases hc0 : chunk16 v sh = 0
  · simp [hc0, crun, ← hp, setReg_self]
  · have hz : v % 2 ^ sh / 2 ^ sh = 0 :=
      Int.ediv_eq_zero_of_lt (Int.emod_nonneg _ (Int.ne_of_gt hpos)) (Int.emod_lt_of_pos _ hpos)
    simp [hc0, crun, cstep, hp, hz]

theorem crun_movks (r : String) (v : Int) (n sh : Nat) (σ : CM) (hp : σ.reg r = v % 2 ^ sh) :
    crun env W lo hi cp (movks r v sh n) σ =
      .ok { σ with reg := setReg σ.reg r (v % 2 ^ (sh + 16 * n)) } := by
  induction n generalizing sh σ with
  | zero => simp [movks, crun, ← hp, setReg_self]
  | succ n ih =>
    rw [movks, crun_append, crun_movk_opt r v sh σ hp]
    simp only [bind, Except.bind]
    rw [ih (sh + 16) _ (by simp [setReg]), setReg_setReg,
      show sh + 16 + 16 * n = sh + 16 * (n + 1) by omega]

theorem crun_loadImmediate (r : String) (v : Int) (σ : CM) :
    crun env W lo hi cp (loadImmediate r v) σ =
      .ok { σ with reg := setReg σ.reg r (v % 2 ^ 64) } := by
  by_cases hsmall : 0 ≤ v ∧ v ≤ 0xFFFF
  · simp only [loadImmediate, if_pos hsmall, crun, cstep]
    rw [Int.emod_eq_of_lt hsmall.1 (by omega)]
  · have hshape : loadImmediate r v = CInstr.movz r (chunk16 v 0) :: movks r v 16 3 := by
      simp [loadImmediate, hsmall, movks]
    have hz : ({ σ with reg := setReg σ.reg r (chunk16 v 0) } : CM).reg r = v % 2 ^ 16 := by
      simp [setReg, chunk16_cast]
    simp only [hshape, crun, cstep]
    rw [crun_movks r v 3 16 _ hz, setReg_setReg]

end

/-- what an x86 operand delivers: an immediate, or the word stored at the symbol -/
def x86Val (env : SymEnv) : ArgVal → Int
  | .int v => v
  | .sym s => env.contents s

def x86Arg : ArgVal × Option String → CInstr
  | (.int v, some r) => .movImm r v
  | (.sym s, some r) => .movSym r s
  | (.int v, none) => .pushImm v
  | (.sym s, none) => .pushSym s

/-- operands the assembler accepts -/
def x86ArgValid (lo hi : Int) : ArgVal × Option String → Prop
  | (.int v, some _) => -(2 ^ 63 : Int) ≤ v ∧ v < 2 ^ 64
  | (.int v, none) => lo ≤ v ∧ v < hi
  | _ => True

def stackVals (l : List (ArgVal × Option String)) : List ArgVal :=
  (l.filter (fun p => p.2.isNone)).map (·.1)

def regsOf (l : List (ArgVal × Option String)) : List String := l.filterMap (·.2)

theorem stackVals_length (l : List (ArgVal × Option String)) :
    (stackVals l).length = stackArgCount l := by
  simp [stackVals, stackArgCount]

theorem regsOf_passedArgs : ∀ (regs : List String) (args : List ArgVal),
    (regsOf (passedArgs regs args)).Sublist regs
  | _, [] => by simp [passedArgs, regsOf]
  | [], _ :: as => by simpa [passedArgs, regsOf] using regsOf_passedArgs [] as
  | r :: rs, _ :: as => by simpa [passedArgs, regsOf] using regsOf_passedArgs rs as

section
variable {env : SymEnv} {W lo hi cp : Int}

theorem cstep_regArg (a : ArgVal) (r : String) (σ : CM) (hv : x86ArgValid lo hi (a, some r)) :
    cstep env W lo hi cp (x86Arg (a, some r)) σ =
      .ok { σ with reg := setReg σ.reg r (x86Val env a) } := by
  cases a with
  | int v =>
    have hv : -9223372036854775808 ≤ v ∧ v < 18446744073709551616 := by
      simpa [x86ArgValid] using hv
    simp [x86Arg, cstep, x86Val, hv]
  | sym s => simp [x86Arg, cstep, x86Val]

theorem cstep_stackArg (a : ArgVal) (σ : CM) (hv : x86ArgValid lo hi (a, none)) :
    cstep env W lo hi cp (x86Arg (a, none)) σ = .ok { σ with
      sp := σ.sp - W, mem := fun x => if x = σ.sp - W then some (x86Val env a) else σ.mem x } := by
  cases a with
  | int v =>
    have hv : lo ≤ v ∧ v < hi := by simpa [x86ArgValid] using hv
    simp [x86Arg, cstep, x86Val, hv]
  | sym s => simp [x86Arg, cstep, x86Val]

variable (env W cp) in
theorem x86_args (hW : 0 < W) (l : List (ArgVal × Option String)) (σ : CM)
    (hv : ∀ p ∈ l, x86ArgValid lo hi p) :
    ∃ σ', crun env W lo hi cp (l.reverse.map x86Arg) σ = .ok σ' ∧
      σ'.sp = σ.sp - W * (stackVals l).length ∧
      (∀ j (hj : j < (stackVals l).length),
        σ'.mem (σ'.sp + W * j) = some (x86Val env (stackVals l)[j])) ∧
      ((regsOf l).Nodup → ∀ a r, (a, some r) ∈ l → σ'.reg r = x86Val env a) := by
  induction l with
  | nil => exact ⟨σ, rfl, by simp [stackVals], by simp [stackVals], by simp⟩
  | cons p l ih =>
    obtain ⟨σ1, h1, hsp, hmem, hreg⟩ := ih fun p hp => hv p (List.mem_cons_of_mem _ hp)
    have hp := hv p List.mem_cons_self
    rw [List.reverse_cons, List.map_append, List.map_singleton, crun_snoc _ h1]
    obtain ⟨a, _ | r⟩ := p
    · have hsv : stackVals ((a, none) :: l) = a :: stackVals l := rfl
      rw [cstep_stackArg a σ1 hp]
      refine ⟨_, rfl, ?_, ?_, ?_⟩
      · simp only [hsv, List.length_cons, hsp]
        rw [Int.natCast_succ, Int.mul_add]; omega
      · intro j hj
        cases j with
        | zero => simp [hsv]
        | succ j =>
          have hj' : j < (stackVals l).length := by simpa [hsv] using hj
          have := Int.mul_nonneg (Int.le_of_lt hW) (Int.natCast_nonneg j)
          simp only [hsv, List.getElem_cons_succ, ← hmem j hj']
          rw [Int.natCast_succ, Int.mul_add, if_neg (by omega)]
          congr 1; omega
      · intro hnd a' r' hm
        rcases List.mem_cons.mp hm with heq | hm
        · cases heq
        · exact hreg (by simpa [regsOf] using hnd) a' r' hm
    · rw [cstep_regArg a r σ1 hp]
      refine ⟨_, rfl, hsp, hmem, ?_⟩
      intro hnd a' r' hm
      have hnd : r ∉ regsOf l ∧ (regsOf l).Nodup := by simpa [regsOf] using hnd
      rcases List.mem_cons.mp hm with heq | hm
      · cases heq; simp [setReg]
      · -- a later move leaves an earlier register alone: the registers in use are distinct
        have : r' ≠ r := fun e => hnd.1 (e ▸ List.mem_filterMap.mpr ⟨_, hm, rfl⟩)
        simp only [setReg, this, ↓reduceIte]
        exact hreg hnd.2 a' r' hm
variable (env W cp) in
/-- the sequence `_CallPatchX86.get_asm` emits (`x86Call_eq`), for any padding, shadow space,
cleanup and callee pop -/
theorem x86_seq_at (hW : 0 < W) (pad sh clean : Nat) (f : String)
    (pa : List (ArgVal × Option String)) (σ : CM)
    (hv : ∀ p ∈ pa, x86ArgValid lo hi p) (hnd : (regsOf pa).Nodup) :
    ∃ σ' regs spc mem,
      crun env W lo hi cp
        (optSub pad ++ pa.reverse.map x86Arg ++ optSub sh ++ [.call f] ++ optAdd clean) σ = .ok σ' ∧
      σ'.sp = spc + cp + clean ∧ σ'.snap = some (f, regs, spc, mem) ∧
      spc = σ.sp - pad - W * (stackVals pa).length - sh ∧
      (∀ a r, (a, some r) ∈ pa → regs r = x86Val env a) ∧
      (∀ j (hj : j < (stackVals pa).length),
        mem (spc + sh + W * j) = some (x86Val env (stackVals pa)[j])) := by
  obtain ⟨σ1, h1, hsp, hmem, hreg⟩ := x86_args env W cp hW pa { σ with sp := σ.sp - pad } hv
  refine ⟨{ σ1 with sp := σ1.sp - sh + cp + clean, snap := some (f, σ1.reg, σ1.sp - sh, σ1.mem) },
    σ1.reg, σ1.sp - sh, σ1.mem, ?_, rfl, rfl, by rw [hsp], hreg hnd, ?_⟩
  · simp only [crun_append, crun_optSub, crun_optAdd, h1, crun, cstep, bind, Except.bind]
  · intro j hj
    rw [← hmem j hj]; congr 1; omega

end

theorem x86Call_eq (W : Nat) (conv : Conv) (f : String) (args : List ArgVal) (adj : Option Nat) :
    let pa := passedArgs conv.regs args
    let argStack := W * stackArgCount pa
    let total := adj.getD 0 + argStack + conv.shadow
    let padding := alignUp total conv.align - total
    x86Call W conv f args adj =
      optSub padding ++ pa.reverse.map x86Arg ++ optSub conv.shadow ++ [.call f] ++
        optAdd (conv.shadow + padding + (if conv.callerCleanup then argStack else 0)) := by
  simp only [x86Call, optSub, optAdd]
  congr 4
  apply List.map_congr_left
  rintro ⟨a, r⟩ _
  cases a <;> cases r <;> rfl

end GtirbVerif.Abi
