import GtirbVerif.Lemmas.IRSyms
import GtirbVerif.Lemmas.IRBytes

/-!
# The block table through the steps of `insert` and `delete`

The loop of `_apply_modifications` applies request after request to the block the *previous* request
returned.  That block has to lie in the byte interval of the block the requests were registered for; this file
follows the block table through every step to see that it does: every step keeps a block in its interval or
detaches it (`Keeps`), except the placement of the patch's own blocks, which are new objects; the blocks handed
to `_cleanup_modified_blocks` are in interval `i` or detached (`In i`) and it returns one of them; the next
request can only succeed on an attached block, so it edits interval `i` again.
-/
namespace GtirbVerif.IR
open GtirbVerif.Adt (CfgNode Label Edge)
open GtirbVerif.Listing GtirbVerif.Batch

/-- `c` names a block in interval `i`, or a detached one -/
def In (i : Nat) (ir : IR) (c : Nat) : Prop :=
  ∃ blk, ir.block? c = some blk ∧ (blk.bi = some i ∨ blk.bi = none)

/-- `c` names no block of another interval (it need not name a block at all) -/
def Stays (i : Nat) (ir : IR) (c : Nat) : Prop :=
  ∀ blk, ir.block? c = some blk → blk.bi = some i ∨ blk.bi = none

theorem In.stays {i : Nat} {ir : IR} {c : Nat} (h : In i ir c) : Stays i ir c := by
  obtain ⟨blk, hb, hi⟩ := h
  intro blk' hb'
  rw [hb] at hb'; cases hb'; exact hi

theorem Stays.bi_eq {i j : Nat} {ir : IR} {c : Nat} {blk : Block} (hs : Stays i ir c) (hb : ir.block? c = some blk)
    (hbi : blk.bi = some j) : j = i := by
  rcases hbi ▸ hs blk hb with h | h
  · exact Option.some.inj h
  · cases h

/-- "in its interval or detached" composes: how `In` and `Keeps` go through two steps -/
theorem bi_trans {x y z : Option Nat} (h1 : z = y ∨ z = none) (h2 : y = x ∨ y = none) : z = x ∨ z = none := by
  rcases h1 with rfl | h1
  · exact h2
  · exact Or.inr h1

/-- every block of `a` is still a block of `b`, in its interval or detached -/
def Keeps (a b : IR) : Prop :=
  ∀ c blk, a.block? c = some blk → ∃ blk', b.block? c = some blk' ∧ (blk'.bi = blk.bi ∨ blk'.bi = none)

theorem Keeps.refl (a : IR) : Keeps a a := fun _ blk h => ⟨blk, h, Or.inl rfl⟩

theorem Keeps.trans {a b c : IR} (h1 : Keeps a b) (h2 : Keeps b c) : Keeps a c := by
  intro k blk hk
  obtain ⟨b1, hb1, hi1⟩ := h1 k blk hk
  obtain ⟨b2, hb2, hi2⟩ := h2 k b1 hb1
  exact ⟨b2, hb2, bi_trans hi2 hi1⟩

theorem Keeps.of_blocks {a b : IR} (h : b.blocks = a.blocks) : Keeps a b := by
  intro c blk hc
  exact ⟨blk, by rw [block?_congr h]; exact hc, Or.inl rfl⟩

theorem Keeps.in {i : Nat} {a b : IR} {c : Nat} (h : Keeps a b) (hc : In i a c) : In i b c := by
  obtain ⟨blk, hb, hi⟩ := hc
  obtain ⟨blk', hb', hi'⟩ := h c blk hb
  exact ⟨blk', hb', bi_trans hi' hi⟩

theorem Keeps.block {a b : IR} (hk : Keeps a b) {c : Nat} (hc : a.block? c ≠ none) : b.block? c ≠ none := by
  obtain ⟨blk, ha⟩ := Option.ne_none_iff_exists'.mp hc
  obtain ⟨blk', hb', _⟩ := hk c blk ha
  rw [hb']; exact Option.some_ne_none _

theorem map_keeps (ir ir' : IR) (f : Block → Block) (hid : ∀ x, (f x).id = x.id)
    (hbi : ∀ x, (f x).bi = x.bi ∨ (f x).bi = none)
    (h : ir'.blocks = ir.blocks.map f) : Keeps ir ir' :=
  fun c blk hc => ⟨f blk, by rw [block?_map f hid h, hc]; rfl, hbi blk⟩

theorem setBlock_keeps (ir : IR) (nb old : Block) (h : ir.block? nb.id = some old)
    (hbi : nb.bi = old.bi ∨ nb.bi = none) : Keeps ir (ir.setBlock nb) := by
  intro c blk hc
  rw [block?_setBlock_some ir nb old h]
  by_cases hcn : c = nb.id
  · subst hcn
    rw [h] at hc; cases hc
    rw [if_pos rfl]
    exact ⟨nb, rfl, hbi⟩
  · rw [if_neg hcn]
    exact ⟨blk, hc, Or.inl rfl⟩

theorem append_keeps (ir ir' : IR) (extra : List Block) (h : ir'.blocks = ir.blocks ++ extra) : Keeps ir ir' :=
  fun c blk hc => ⟨blk, by rw [block?_append h, hc]; rfl, Or.inl rfl⟩

/-- all block ids in use are below the counter new ids are taken from -/
def IdsBelow (ir : IR) : Prop := ∀ k ∈ ir.ids, k < ir.next

theorem block?_none_iff (ir : IR) (c : Nat) : ir.block? c = none ↔ c ∉ ir.ids := by
  unfold IR.block? IR.ids
  constructor
  · intro h hm
    obtain ⟨x, hx, hxc⟩ := List.mem_map.mp hm
    exact absurd (beq_iff_eq.mpr hxc) (List.find?_eq_none.mp h x hx)
  · intro h
    apply List.find?_eq_none.mpr
    intro x hx hxc
    exact h (beq_iff_eq.mp hxc ▸ List.mem_map_of_mem hx)

theorem block?_ne_none_iff (ir : IR) (c : Nat) : ir.block? c ≠ none ↔ c ∈ ir.ids :=
  (not_congr (block?_none_iff ir c)).trans Decidable.not_not

theorem IdsBelow.fresh {ir : IR} (h : IdsBelow ir) {k : Nat} (hk : ir.next ≤ k) : ir.block? k = none :=
  (block?_none_iff ir k).mpr fun hm => Nat.not_lt.mpr hk (h k hm)

theorem IdsBelow.mono {a b : IR} (h : IdsBelow a) (hi : b.ids = a.ids) (hn : a.next ≤ b.next) : IdsBelow b := by
  intro k hk
  rw [hi] at hk
  exact Nat.lt_of_lt_of_le (h k hk) hn

theorem ids_of_blocks {a b : IR} (h : b.blocks = a.blocks) : b.ids = a.ids := by unfold IR.ids; rw [h]

theorem ids_map (ir ir' : IR) (f : Block → Block) (hid : ∀ x, (f x).id = x.id) (h : ir'.blocks = ir.blocks.map f) :
    ir'.ids = ir.ids := by
  unfold IR.ids
  rw [h, List.map_map]
  apply List.map_congr_left
  intro x _
  exact hid x

theorem setBlock_ids (ir : IR) (nb : Block) : (ir.setBlock nb).ids = ir.ids :=
  ids_map ir _ _ (replace_key Block.id nb) rfl

theorem splitBlock_blocks {ir ir' : IR} {b off nb : Nat} {added : Bool} {blk : Block}
    (h : ir.splitBlock b off = .ok (ir', nb, added)) (hb : ir.block? b = some blk) :
    nb = ir.next ∧ ir'.blocks = (ir.setBlock { blk with size := off }).blocks ++
      [{ id := ir.next, isCode := blk.isCode, bi := blk.bi, off := blk.off + off, size := blk.size - off }] := by
  obtain ⟨h1, _, _, h4⟩ := splitBlock_syms_blocks h hb
  subst h1
  exact ⟨rfl, h4⟩

theorem splitBlock_keeps {ir ir' : IR} {b off nb : Nat} {added : Bool}
    (h : ir.splitBlock b off = .ok (ir', nb, added)) : Keeps ir ir' := by
  obtain ⟨blk, _, hb, _⟩ := splitBlock_ok h
  have hbl := (splitBlock_blocks h hb).2
  obtain rfl := block?_id hb
  exact (setBlock_keeps ir { blk with size := off } blk hb (Or.inl rfl)).trans (append_keeps _ _ _ hbl)

theorem splitBlock_ids {ir ir' : IR} {b off nb : Nat} {added : Bool}
    (h : ir.splitBlock b off = .ok (ir', nb, added)) : ir'.ids = ir.ids ++ [ir.next] := by
  obtain ⟨blk, _, hb, _⟩ := splitBlock_ok h
  unfold IR.ids
  rw [(splitBlock_blocks h hb).2, List.map_append]
  exact congrArg (· ++ [ir.next]) (setBlock_ids ir { blk with size := off })

theorem splitBlock_idsBelow {ir ir' : IR} {b off nb : Nat} {added : Bool}
    (h : ir.splitBlock b off = .ok (ir', nb, added)) (hI : IdsBelow ir) : IdsBelow ir' := by
  intro k hk
  rw [splitBlock_ids h, List.mem_append, List.mem_singleton] at hk
  rw [splitBlock_next h]
  rcases hk with hk | rfl
  · exact Nat.lt_succ_of_lt (hI k hk)
  · exact Nat.lt_succ_self _

theorem splitBlock_new_in {i : Nat} {ir ir' : IR} {b off nb : Nat} {added : Bool}
    (h : ir.splitBlock b off = .ok (ir', nb, added)) (hin : In i ir b) (hI : IdsBelow ir) : In i ir' nb := by
  obtain ⟨blk, hb, hi⟩ := hin
  have hfresh : ir.block? ir.next = none := hI.fresh (Nat.le_refl _)
  obtain rfl := (splitBlock_blocks h hb).1
  have hne : ¬ ir.next = b := fun he => by rw [he, hb] at hfresh; cases hfresh
  refine ⟨{ id := ir.next, isCode := blk.isCode, bi := blk.bi, off := blk.off + off, size := blk.size - off }, ?_, hi⟩
  rw [splitBlock_block? h hb hfresh, if_neg hne, if_pos rfl]

theorem splitBlock_new_ne {ir ir' : IR} {b off nb : Nat} {added : Bool}
    (h : ir.splitBlock b off = .ok (ir', nb, added)) (hI : IdsBelow ir) (c : Nat) (hc : ir.block? c ≠ none) : c ≠ nb := by
  obtain ⟨_, _, _, _, _, rfl, _⟩ := splitBlock_ok h
  intro he
  exact hc (he ▸ hI.fresh (Nat.le_refl _))

theorem setBlock_keeps_none (ir : IR) (nb : Block) (hbi : nb.bi = none) : Keeps ir (ir.setBlock nb) := by
  refine map_keeps ir _ _ (replace_key Block.id nb) (fun x => ?_) rfl
  split
  · exact Or.inr hbi
  · exact Or.inl rfl

/-- a step that only resizes, moves or detaches blocks the table already has -/
def Touches (a b : IR) : Prop := Keeps a b ∧ b.ids = a.ids ∧ a.next ≤ b.next

theorem Touches.refl (a : IR) : Touches a a := ⟨Keeps.refl a, rfl, Nat.le_refl _⟩

theorem Touches.trans {a b c : IR} (h1 : Touches a b) (h2 : Touches b c) : Touches a c :=
  ⟨h1.1.trans h2.1, h2.2.1.trans h1.2.1, Nat.le_trans h1.2.2 h2.2.2⟩

theorem Touches.of_blocks {a b : IR} (h : b.blocks = a.blocks) (hn : a.next ≤ b.next) : Touches a b :=
  ⟨Keeps.of_blocks h, ids_of_blocks h, hn⟩

theorem Touches.idsBelow {a b : IR} (h : Touches a b) (hI : IdsBelow a) : IdsBelow b :=
  hI.mono h.2.1 h.2.2

theorem Touches.fresh {a b : IR} (h : Touches a b) {c : Nat} (hn : a.block? c = none) : b.block? c = none := by
  rw [block?_none_iff, h.2.1, ← block?_none_iff]; exact hn

theorem setBlock_touches (ir : IR) (nb old : Block) (h : ir.block? nb.id = some old)
    (hbi : nb.bi = old.bi ∨ nb.bi = none) : Touches ir (ir.setBlock nb) :=
  ⟨setBlock_keeps ir nb old h hbi, setBlock_ids ir nb, Nat.le_refl _⟩

theorem joinBlocks_touches {ir ir' : IR} {id1 id2 : Nat} (h : ir.joinBlocks id1 id2 = .ok ir') : Touches ir ir' := by
  obtain ⟨b1, b2, h1, h2⟩ := joinBlocks_blocks h
  have hbl := (joinBlocks_syms_blocks h h1 h2).2.2
  obtain rfl := block?_id h1
  exact ((setBlock_touches ir { b1 with size := b1.size + b2.size } b1 h1 (Or.inl rfl)).trans
    ⟨setBlock_keeps_none _ { b2 with bi := none } rfl, setBlock_ids _ _, Nat.le_refl _⟩).trans
    (Touches.of_blocks hbl (Nat.le_of_eq (joinBlocks_next h).symm))

theorem blocks_graphFree : GraphFree IR.blocks := fun _ _ _ _ => rfl
theorem blocks_funcsFree : FuncsFree IR.blocks := fun _ _ _ _ _ => rfl

theorem keepEmpty_blocks (ir : IR) (blk : Block) : (ir.keepEmpty blk).blocks = (ir.setBlock { blk with size := 0 }).blocks :=
  keepEmpty_obs _ blocks_graphFree ..

theorem removeStages_blocks (ir : IR) (blk : Block) (t c : Bool) (px p n : Option Nat) :
    (ir.removeStages blk t c px p n).blocks = ir.blocks := by
  -- the last two stages are record updates of aux tables; stated of a variable, so that `rfl` unfolds nothing else
  have tail : ∀ z : IR, ((z.removeAuxEntries blk).removeCfi blk.id (ir.requiredCfi blk) p n
      (ir.isCodeBlockId p) (ir.isCodeBlockId n)).blocks = z.blocks := fun _ => rfl
  cases c
  · rw [removeStages_false, tail]
    exact removeOutEdges_obs IR.blocks blocks_graphFree ..
  · rw [removeStages_true, tail]
    exact (removeOutEdges_obs IR.blocks blocks_graphFree ..).trans
      ((removeEntrypoints_obs IR.blocks (fun _ _ _ _ _ _ => rfl) ..).trans
        ((removeFunctions_obs _ blocks_funcsFree ..).trans (removeInEdges_obs _ blocks_graphFree ..)))

theorem setBlock_blocks_congr {x ir : IR} (h : x.blocks = ir.blocks) (nb : Block) :
    (x.setBlock nb).blocks = (ir.setBlock nb).blocks := by
  unfold IR.setBlock; rw [h]

theorem removeBlock_blocks {ir ir' : IR} {b : Nat} {px r : Bool} {blk : Block}
    (h : ir.removeBlock b px = .ok (ir', r)) (hb : ir.block? b = some blk) :
    ir'.blocks = (ir.setBlock (if r then { blk with bi := none } else { blk with size := 0 })).blocks := by
  obtain ⟨sect, _, _, rfl⟩ := removeBlock_ok h hb
  have hst : ∀ c : Bool, ((ir.withProxy px).removeStages blk px c (if px then some ir.next else none)
      (ir.adjacent blk).1 (ir.adjacent blk).2).blocks = ir.blocks :=
    fun c => (removeStages_blocks ..).trans (withProxy_obs _ (fun _ _ _ => rfl) ..)
  cases r with
  | true => rw [cond_true, if_pos rfl]; exact setBlock_blocks_congr ((orderRemove_blocks ..).trans (hst _)) _
  | false =>
    rw [cond_false, if_neg Bool.false_ne_true, keepEmpty_blocks]
    exact setBlock_blocks_congr (hst _) _

/-- the record `remove_block` writes back for the block - detached, or emptied - goes where the block's own was -/
theorem removeBlock_record {ir : IR} {b : Nat} {blk : Block} (hb : ir.block? b = some blk) (r : Bool) :
    ir.block? (if r then { blk with bi := none } else { blk with size := 0 } : Block).id = some blk ∧
    ((if r then { blk with bi := none } else { blk with size := 0 } : Block).bi = blk.bi ∨
     (if r then { blk with bi := none } else { blk with size := 0 } : Block).bi = none) := by
  have hb' : ir.block? blk.id = some blk := by rw [block?_id hb]; exact hb
  cases r
  · exact ⟨hb', Or.inl rfl⟩
  · exact ⟨hb', Or.inr rfl⟩

theorem removeBlock_block? {ir ir' : IR} {b : Nat} {px r : Bool} {blk : Block}
    (h : ir.removeBlock b px = .ok (ir', r)) (hb : ir.block? b = some blk) (c : Nat) :
    ir'.block? c = if c = b then some (if r then { blk with bi := none } else { blk with size := 0 }) else ir.block? c := by
  have he := (removeBlock_record hb r).1
  rw [block?_congr (removeBlock_blocks h hb), block?_setBlock_some ir _ blk he, (block?_id he).symm.trans (block?_id hb)]

theorem removeBlock_other {ir ir' : IR} {b : Nat} {px r : Bool}
    (h : ir.removeBlock b px = .ok (ir', r)) {c : Nat} (hc : c ≠ b) : ir'.block? c = ir.block? c := by
  obtain ⟨blk, hb⟩ := removeBlock_block h
  rw [removeBlock_block? h hb, if_neg hc]

theorem removeBlock_touches {ir ir' : IR} {b : Nat} {px r : Bool}
    (h : ir.removeBlock b px = .ok (ir', r)) : Touches ir ir' := by
  obtain ⟨blk, hb⟩ := removeBlock_block h
  obtain ⟨he, hbi⟩ := removeBlock_record hb r
  exact (setBlock_touches ir _ blk he hbi).trans (Touches.of_blocks (removeBlock_blocks h hb) (removeBlock_next_le h : ir.next ≤ ir'.next))

theorem connectEmptyTail_touches (ir : IR) (t : Nat) : Touches ir (ir.connectEmptyTail t) :=
  Touches.of_blocks (core_blocks (connectEmptyTail_core _ _)) (by rw [connectEmptyTail_next]; exact Nat.le_refl _)

theorem editInterval_map (ir : IR) (i off len : Nat) (c st : List Nat) :
    ∃ f : Block → Block, (ir.editInterval i off len c st).blocks = ir.blocks.map f ∧ (∀ x, (f x).id = x.id) ∧
      (∀ x, (f x).bi = x.bi) ∧ (∀ x, x.bi ≠ some i → f x = x) := by
  unfold IR.editInterval
  split
  · exact ⟨id, (List.map_id _).symm, fun _ => rfl, fun _ => rfl, fun _ _ => rfl⟩
  · refine ⟨fun b => if b.bi == some i && decide (b.off ≥ off) && !st.contains b.id
      then { b with off := b.off + c.length - len } else b, rfl, ?_, ?_, ?_⟩
    · intro x; dsimp only; split <;> rfl
    · intro x; dsimp only; split <;> rfl
    · intro x hx
      dsimp only
      rw [if_neg]
      rw [beq_eq_false_iff_ne.mpr hx]; exact Bool.false_ne_true

theorem editInterval_touches (ir : IR) (i off len : Nat) (c st : List Nat) : Touches ir (ir.editInterval i off len c st) := by
  obtain ⟨f, hf, hid, hbi, _⟩ := editInterval_map ir i off len c st
  exact ⟨map_keeps _ _ f hid (fun x => Or.inl (hbi x)) hf, ids_map _ _ f hid hf, Nat.le_of_eq (editInterval_next ..).symm⟩

@[simp] theorem addReturnEdgesForPatchCalls_blocks (ir : IR) (pcfg : List Edge) :
    (ir.addReturnEdgesForPatchCalls pcfg).1.blocks = ir.blocks := addReturnEdgesForPatchCalls_obs _ blocks_graphFree.cfg ..
@[simp] theorem addPatchFunctions_blocks (ir : IR) (blk : Block) (tb : List Block) :
    (ir.addPatchFunctions blk tb).blocks = ir.blocks := addPatchFunctions_obs _ blocks_funcsFree ..

theorem insertStitch_blocks (ir : IR) (tb : List Block) (b e : Nat) (a : Bool) :
    (ir.insertStitch tb b e a).blocks = ir.blocks ++ tb.map (fun x => { x with bi := none }) :=
  insertStitch_obs _ blocks_graphFree.cfg ..

theorem append_detached_in {i : Nat} {a b : IR} {tb : List Block}
    (h : b.blocks = a.blocks ++ tb.map (fun x => { x with bi := none })) {c : Nat}
    (hc : c ∈ tb.map (·.id)) (hn : a.block? c = none) : In i b c := by
  -- one of the appended blocks has the id
  obtain ⟨x, hx, hxc⟩ := List.mem_map.mp hc
  obtain ⟨y, hy⟩ := Option.isSome_iff_exists.mp (List.find?_isSome (p := (·.id == c)).mpr ⟨x, hx, beq_iff_eq.mpr hxc⟩)
  refine ⟨{ y with bi := none }, ?_, Or.inr rfl⟩
  rw [block?_append h, hn, Option.none_or, find?_map_key Block.id (fun x => { x with bi := none }) (fun _ => rfl), hy]; rfl

theorem placePatchBlocks_map (ir : IR) (tb : List Block) (i base : Nat) :
    ∃ g : Block → Block, (ir.placePatchBlocks tb i base).blocks = ir.blocks.map g ∧ (∀ x, (g x).id = x.id) ∧
      (∀ x, x.id ∉ tb.map (·.id) → g x = x) ∧ (∀ x, x.id ∈ tb.map (·.id) → (g x).bi = some i) := by
  let place : Block → Block := fun b => { b with bi := some i, off := base + b.off }
  refine ⟨fun b => match (tb.map place).find? (·.id == b.id) with | some pb => pb | none => b, rfl, ?_, ?_, ?_⟩
  · intro x
    dsimp only
    split
    · rename_i pb hp; exact find?_key_eq Block.id hp
    · rfl
  · intro x hx
    dsimp only
    split
    · rename_i pb hp
      obtain ⟨z, hz, hzp⟩ := List.mem_map.mp (List.mem_of_find?_eq_some hp)
      refine absurd ?_ hx
      rw [← find?_key_eq Block.id hp, ← hzp]
      exact List.mem_map_of_mem (f := (·.id)) hz
    · rfl
  · intro x hx
    dsimp only
    split
    · rename_i pb hp
      obtain ⟨z, _, hz⟩ := List.mem_map.mp (List.mem_of_find?_eq_some hp)
      rw [← hz]
    · rename_i hn
      obtain ⟨z, hz, hzx⟩ := List.mem_map.mp hx
      have := List.find?_eq_none.mp hn (place z) (List.mem_map_of_mem hz)
      exact absurd (beq_iff_eq.mpr hzx) this

theorem placePatchBlocks_in {i : Nat} (ir : IR) (tb : List Block) (base c : Nat) (h : In i ir c) :
    In i (ir.placePatchBlocks tb i base) c := by
  obtain ⟨blk, hb, hi⟩ := h
  obtain ⟨g, hg, hid, ho, hp⟩ := placePatchBlocks_map ir tb i base
  refine ⟨g blk, by rw [block?_map g hid hg, hb]; rfl, ?_⟩
  by_cases hm : blk.id ∈ tb.map (·.id)
  · exact Or.inl (hp blk hm)
  · rw [ho blk hm]; exact hi

theorem placePatchBlocks_ids (ir : IR) (tb : List Block) (i base : Nat) :
    (ir.placePatchBlocks tb i base).ids = ir.ids := by
  obtain ⟨g, hg, hid, _⟩ := placePatchBlocks_map ir tb i base
  exact ids_map ir _ g hid hg

/-- the table of `b` is the table of `a` plus blocks whose ids are among `ids`; counter unchanged -/
def Ext (ids : List Nat) (a b : IR) : Prop :=
  ∃ extra, b.blocks = a.blocks ++ extra ∧ (∀ y ∈ extra, y.id ∈ ids) ∧ b.next = a.next

theorem Ext.refl (ids : List Nat) (a : IR) : Ext ids a a := ⟨[], by simp, by simp, rfl⟩

theorem Ext.trans {ids : List Nat} {a b c : IR} (h1 : Ext ids a b) (h2 : Ext ids b c) : Ext ids a c := by
  obtain ⟨e1, hb1, hi1, hn1⟩ := h1
  obtain ⟨e2, hb2, hi2, hn2⟩ := h2
  refine ⟨e1 ++ e2, by rw [hb2, hb1, List.append_assoc], ?_, hn2.trans hn1⟩
  intro y hy
  rcases List.mem_append.mp hy with hy | hy
  · exact hi1 y hy
  · exact hi2 y hy

theorem orderAppend_blocks (ir : IR) (s : Nat) (bs : List Nat) : (ir.orderAppend s bs).blocks = ir.blocks :=
  orderAppend_obs _ (fun _ _ => rfl) ..

theorem addOtherSection_ext {ir ir' : IR} {p : Patch} {s : PatchSect} {sid bid : Nat} {ns : List Sym}
    (h : ir.addOtherSection p s sid bid = .ok (ir', ns)) : Ext (s.blocks.map (·.id)) ir ir' := by
  obtain ⟨kept, aux1, hk, rfl, _⟩ := addOtherSection_ok h
  refine ⟨kept.map (fun b => { b with bi := some bid }), orderAppend_blocks .., ?_, orderAppend_obs IR.next (fun _ _ => rfl) ..⟩
  intro y hy
  obtain ⟨z, hz, rfl⟩ := List.mem_map.mp hy
  rw [hk] at hz
  refine List.mem_map_of_mem (f := Block.id) (a := z) ?_
  split at hz
  · exact List.dropLast_subset _ hz
  · exact hz

theorem mem_patch_ids_of_others {p : Patch} {x : PatchSect × Nat × Nat} (hx : x ∈ p.others) {k : Nat}
    (hk : k ∈ x.1.blocks.map (·.id)) : k ∈ p.ids := by
  unfold Patch.ids
  apply List.mem_append_right
  exact List.mem_flatten.mpr ⟨_, List.mem_map_of_mem (f := fun s => s.1.blocks.map (·.id)) hx, hk⟩

theorem addOthers_ext {ir ir' : IR} {p : Patch} (h : ir.addOthers p = .ok ir') : Ext p.ids ir ir' :=
  addOthers_rel (Ext.refl _) Ext.trans (fun _ _ => ⟨[], by simp, by simp, rfl⟩)
    (fun x hx _ _ _ _ hao => by
      obtain ⟨extra, hb, hi, hn⟩ := addOtherSection_ext hao
      exact ⟨extra, hb, fun y hy => mem_patch_ids_of_others hx (hi y hy), hn⟩) h

theorem Ext.keeps {ids : List Nat} {a b : IR} (h : Ext ids a b) : Keeps a b := by
  obtain ⟨extra, hb, _, _⟩ := h
  exact append_keeps a b extra hb

theorem bumpNext_facts (ir : IR) (p : Patch) :
    (ir.bumpNext p).blocks = ir.blocks ∧ ir.next ≤ (ir.bumpNext p).next ∧ ∀ k ∈ p.ids, k < (ir.bumpNext p).next := by
  refine ⟨rfl, ?_, ?_⟩
  · show ir.next ≤ max ir.next _
    exact Nat.le_max_left _ _
  · intro k hk
    show k < max ir.next (p.ids.foldl max ir.next + 1)
    have := (foldl_max_spec p.ids ir.next).2.1 k hk
    omega

theorem addPatchExprs_blocks (ir : IR) (i base : Nat) (ex : List (Nat × SymExpr)) :
    (ir.addPatchExprs i base ex).blocks = ir.blocks := addPatchExprs_obs _ (fun _ _ => rfl) ..

theorem adoptPatchBlocks_same (ir : IR) (p : Patch) (f : Nat) :
    (ir.adoptPatchBlocks p f).blocks = ir.blocks ∧ (ir.adoptPatchBlocks p f).intervals = ir.intervals ∧
      (ir.adoptPatchBlocks p f).next = ir.next :=
  ⟨adoptPatchBlocks_obs _ blocks_funcsFree .., adoptPatchBlocks_obs _ intervals_funcsFree ..,
    adoptPatchBlocks_obs _ next_funcsFree ..⟩

theorem loopInsert_same {ir ir' : IR} {func : Option Nat} {ab : Block} {a ao repl last : Nat} {p : Patch}
    (h : ir.loopInsert func ab a ao repl p = .ok (ir', last)) :
    ∃ ir1, ir.insert a ao repl p = .ok (ir1, last) ∧ ir'.blocks = ir1.blocks ∧ ir'.intervals = ir1.intervals ∧
      ir'.next = ir1.next := by
  obtain ⟨ir1, hins, h' | ⟨f, h'⟩⟩ := loopInsert_ok h <;> rw [h']
  · exact ⟨ir1, hins, rfl, rfl, rfl⟩
  · exact ⟨ir1, hins, adoptPatchBlocks_same ir1 p f⟩

theorem insert_ok_bi {i : Nat} {ir ir' : IR} {b off repl last : Nat} {p : Patch} {blk : Block}
    (h : ir.insert b off repl p = .ok (ir', last)) (hin : In i ir b) (hb : ir.block? b = some blk) : blk.bi = some i := by
  obtain ⟨blk', j, _, _, _, _, _, hb', hbi, _⟩ := insert_ok h
  rw [hb] at hb'; cases hb'
  rw [hbi, hin.stays.bi_eq hb hbi]

theorem delete_ok_bi {i : Nat} {ir ir' : IR} {b off len : Nat} {px : Bool} {r : Option Nat} {blk : Block}
    (h : ir.delete b off len px = .ok (ir', r)) (hin : In i ir b) (hb : ir.block? b = some blk) : blk.bi = some i := by
  obtain ⟨blk', j, hb', hbi, _⟩ := delete_ok h
  rw [hb] at hb'; cases hb'
  rw [hbi, hin.stays.bi_eq hb hbi]

/-- **the blocks of every patch are new, distinct objects when the patch is inserted**: their ids
are pairwise different, name no block of the IR at that moment and lie below the model's id
counter (the model takes the ids of the blocks it creates itself from that counter upwards) (the model names objects by numbers; the real patch
consists of freshly created `gtirb.ByteBlock`s) -/
def NewBlocks (origOff : Nat) (func : Option Nat) : IR → Option Nat → Int → List Mod → Prop
  | _, _, _, [] => True
  | _, none, _, _ :: _ => True
  | ir, some a, total, m :: ms =>
    match ir.block? a with
    | none => True
    | some ab =>
      match m with
      | .ins o repl p =>
        (∀ c ∈ p.text.blocks.map (·.id), ir.block? c = none ∧ c < ir.next) ∧ (p.text.blocks.map (·.id)).Nodup ∧
        ∀ ir' last, ir.loopInsert func ab a (actualOffset origOff ab total o).toNat repl p = .ok (ir', last) →
          NewBlocks origOff func ir' (some last) (total + (p.text.data.length : Int) - (repl : Int)) ms
      | .del o len px =>
        ∀ ir' r, ir.delete a (actualOffset origOff ab total o).toNat len px = .ok (ir', r) →
          NewBlocks origOff func ir' r (total - (len : Int)) ms

theorem NewBlocks.ins {origOff : Nat} {func : Option Nat} {ir : IR} {a : Nat} {ab : Block} {total : Int} {o repl : Nat}
    {p : Patch} {ms : List Mod} (hab : ir.block? a = some ab)
    (h : NewBlocks origOff func ir (some a) total (.ins o repl p :: ms)) :
    (∀ c ∈ p.text.blocks.map (·.id), ir.block? c = none ∧ c < ir.next) ∧ (p.text.blocks.map (·.id)).Nodup ∧
    ∀ ir' last, ir.loopInsert func ab a (actualOffset origOff ab total o).toNat repl p = .ok (ir', last) →
      NewBlocks origOff func ir' (some last) (total + (p.text.data.length : Int) - (repl : Int)) ms := by
  unfold NewBlocks at h; rw [hab] at h; exact h

theorem NewBlocks.del {origOff : Nat} {func : Option Nat} {ir : IR} {a : Nat} {ab : Block} {total : Int} {o len : Nat}
    {px : Bool} {ms : List Mod} (hab : ir.block? a = some ab)
    (h : NewBlocks origOff func ir (some a) total (.del o len px :: ms)) :
    ∀ ir' r, ir.delete a (actualOffset origOff ab total o).toNat len px = .ok (ir', r) →
      NewBlocks origOff func ir' r (total - (len : Int)) ms := by
  unfold NewBlocks at h; rw [hab] at h; exact h

end GtirbVerif.IR
