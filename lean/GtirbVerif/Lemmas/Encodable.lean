import GtirbVerif.Lemmas.Leb
import GtirbVerif.Lemmas.IntCodec
import GtirbVerif.Model.Dwarf.Encodable
import GtirbVerif.Lemmas.Basics

/-! Round trip of the table-driven opcode/operand codec, for any table that satisfies `TableOK`. -/
namespace GtirbVerif.Dwarf

def Enc.notFused : Enc → Bool
  | .addOp _ => false
  | _ => true

-- `sint 0`: the model's signed range at width 0 still holds -1, which no bytes carry
-- (`intDec_intEnc`).  `addOp 0`: `_AddToOpcodeEncoder.__init__` asserts `0 < upper_bound`; no proof
-- rests on that clause.
def Enc.ok : Enc → Bool
  | .sint n => n != 0
  | .addOp b => b != 0
  | _ => true

/-- per-class sanity: registered bytes fit in a byte, a fused field only in
first position -/
def ClassDesc.ok (c : ClassDesc) : Bool :=
  decide (c.opcode + c.width ≤ 256) && c.encs.all Enc.ok &&
    (c.encs.drop 1).all (fun e => match e with | .addOp _ => false | _ => true)

def noOverlap (c c' : ClassDesc) : Bool :=
  !(decide (c.opcode < c'.opcode + c'.width) && decide (c'.opcode < c.opcode + c.width))

def pairwiseB {α} (r : α → α → Bool) : List α → Bool
  | [] => true
  | x :: xs => xs.all (r x) && pairwiseB r xs

def TableOK (t : Table) : Bool := t.all ClassDesc.ok && pairwiseB noOverlap t

/-- expression tables have integer operands only -/
def ExprFree (t : Table) : Bool := t.all (fun c => c.encs.all (· != .expr))

theorem lookup_of_mem {t : Table} (ht : pairwiseB noOverlap t = true) {c : ClassDesc}
    (hc : c ∈ t) {b : Nat} (hb : c.covers b = true) : lookup t b = some c := by
  unfold lookup
  induction t with
  | nil => cases hc
  | cons x xs ih =>
    simp only [pairwiseB, Bool.and_eq_true, List.all_eq_true] at ht
    rcases List.mem_cons.mp hc with rfl | hmem
    · rw [List.find?_cons, hb]
    · -- an earlier class does not overlap `c`, so it does not cover `b` either
      have hx : x.covers b = false := by
        have := ht.1 c hmem
        simp only [noOverlap, ClassDesc.covers, Bool.not_eq_true', Bool.and_eq_false_iff,
          decide_eq_false_iff_not, decide_eq_true_eq] at this hb ⊢
        omega
      rw [List.find?_cons, hx]
      exact ih ht.2 hmem

/-- what `__init_subclass__` enters in the registration dict for one class -/
def ClassDesc.registers (c : ClassDesc) : List (Nat × String) :=
  (List.range' c.opcode c.width).map (·, c.name)

theorem lookup_map_range' (n : String) (b s w : Nat) :
    ((List.range' s w).map (·, n)).lookup b = if s ≤ b ∧ b < s + w then some n else none := by
  induction w generalizing s with
  | zero => simp
  | succ w ih =>
    simp only [List.range'_succ, List.map_cons, List.lookup_cons, ih]
    by_cases h : b = s
    · subst h; simp
    · have : (b == s) = false := by simpa using h
      simp only [this]
      congr 1
      apply propext
      omega

theorem lookup_registers (t : Table) (b : Nat) :
    (t.flatMap ClassDesc.registers).lookup b = (lookup t b).map (·.name) := by
  induction t with
  | nil => rfl
  | cons c t ih =>
    simp only [List.flatMap_cons, List.lookup_append, ClassDesc.registers, lookup_map_range',
      lookup, List.find?_cons, ClassDesc.covers] at ih ⊢
    by_cases h : c.opcode ≤ b ∧ b < c.opcode + c.width
    · simp [h]
    · simp [h, ih]

theorem ClassDesc.fusedBound_eq_some {c : ClassDesc} {k : Nat} :
    c.fusedBound = some k ↔ ∃ es, c.encs = .addOp k :: es := by
  unfold ClassDesc.fusedBound
  split <;> simp_all

theorem ClassDesc.ok_tail {c : ClassDesc} (hok : c.ok = true) {e : Enc} {es : List Enc}
    (hc : c.encs = e :: es) : ∀ e' ∈ es, e'.notFused = true ∧ e'.ok = true := by
  simp only [ClassDesc.ok, hc, List.drop_succ_cons, List.drop_zero, Bool.and_eq_true,
    List.all_eq_true] at hok
  -- `ClassDesc.ok` writes the test of `Enc.notFused` out as a `match`, which unfolds to the same case analysis
  exact fun e' he => ⟨hok.2 e' he, hok.1.2 e' (List.mem_cons_of_mem _ he)⟩

theorem ClassDesc.ok_all {c : ClassDesc} (hok : c.ok = true) (hfb : c.fusedBound = none) :
    ∀ e ∈ c.encs, e.notFused = true ∧ e.ok = true := by
  unfold ClassDesc.fusedBound at hfb
  cases hc : c.encs with
  | nil => simp
  | cons e es =>
    have htail := ClassDesc.ok_tail hok hc
    simp only [ClassDesc.ok, Bool.and_eq_true, List.all_eq_true] at hok
    rw [hc] at hfb
    simp only [List.mem_cons, forall_eq_or_imp]
    exact ⟨⟨by cases e <;> first | rfl | (cases hfb), hok.1.2 e (by simp [hc])⟩, htail⟩

theorem lookup_firstByte {t : Table} (hT : TableOK t = true) {c : ClassDesc} (hc : c ∈ t)
    {first : Option Int} (h : ∀ k ∈ c.fusedBound, ∃ v ∈ first, 0 ≤ v ∧ v < (k : Int)) :
    lookup t (firstByte c first) = some c := by
  simp only [TableOK, Bool.and_eq_true] at hT
  apply lookup_of_mem hT.2 hc
  cases hfb : c.fusedBound with
  | none => simp [ClassDesc.covers, firstByte, ClassDesc.width, hfb]
  | some k =>
    obtain ⟨v, rfl, h0, hk⟩ := h k hfb
    simp only [ClassDesc.covers, firstByte, ClassDesc.width, hfb, Option.getD_some,
      decide_eq_true_eq]
    omega

theorem firstByte_sub {c : ClassDesc} {k : Nat} (hfb : c.fusedBound = some k) {v : Int}
    (hv : 0 ≤ v) : ((firstByte c (some v) : Nat) : Int) - (c.opcode : Int) = v := by
  simp only [firstByte, hfb]
  omega

theorem decInt_encInt {e : Enc} {bo : ByteOrder} {ptr : Nat} {v : Int} {b : List Nat}
    (rest : List Nat) (hs : e.notFused = true) (hok : e.ok = true)
    (hv : validateInt e (some ptr) v = true) (h : encInt e bo ptr v = some b) :
    decInt e bo ptr (b ++ rest) = .ok (v, b.length, rest) := by
  cases e with
  | uleb =>
    cases h
    simp only [decInt, ulebDec_ulebEnc, Int.toNat_of_nonneg (of_decide_eq_true hv)]
  | sleb =>
    cases h
    simp only [decInt, slebDec_slebEnc]
  | uint n => simp only [decInt, intDec_intEnc n false nofun bo v b rest h, intEnc_length h]
  | sint n =>
    have hn : n ≠ 0 := by simpa [Enc.ok] using hok
    simp only [decInt, intDec_intEnc n true (fun _ => hn) bo v b rest h, intEnc_length h]
  | uintptr => simp only [decInt, intDec_intEnc ptr false nofun bo v b rest h, intEnc_length h]
  | addOp k => cases hs
  -- `encInt` refuses an expression field: the table need not be `ExprFree`
  | expr => cases h

theorem encInt_lt {e : Enc} {bo : ByteOrder} {ptr : Nat} {v : Int} {b : List Nat}
    (h : encInt e bo ptr v = some b) : ∀ x ∈ b, x < 256 := by
  cases e with
  | uleb => cases h; exact ulebEnc_lt _
  | sleb => cases h; exact slebEnc_lt _
  | uint n => exact intEnc_lt h
  | sint n => exact intEnc_lt h
  | uintptr => exact intEnc_lt h
  | addOp k => cases h; exact List.forall_mem_nil _
  | expr => cases h

theorem validateOpArgs_nil {p : Option Nat} {vs : List Int} :
    validateOpArgs p [] vs = .ok () ↔ vs = [] := by
  cases vs <;> simp [validateOpArgs]

theorem validateOpArgs_cons {p : Option Nat} {e : Enc} {es : List Enc} {args : List Int} :
    validateOpArgs p (e :: es) args = .ok () ↔
      ∃ v vs, args = v :: vs ∧ validateInt e p v = true ∧
        validateOpArgs p es vs = .ok () := by
  cases args with
  | nil => simp [validateOpArgs]
  | cons v vs =>
    simp only [validateOpArgs, List.cons.injEq]
    constructor
    · intro h; split at h
      · exact ⟨v, vs, ⟨rfl, rfl⟩, ‹_›, h⟩
      · cases h
    · rintro ⟨_, _, ⟨rfl, rfl⟩, hv, h⟩; rw [if_pos hv, h]

theorem encOpFields_cons {bo : ByteOrder} {ptr : Nat} {e : Enc} {es : List Enc} {v : Int}
    {vs : List Int} {b : List Nat} :
    encOpFields bo ptr (e :: es) (v :: vs) = .ok b ↔
      ∃ b1 r, encInt e bo ptr v = some b1 ∧ encOpFields bo ptr es vs = .ok r ∧
        b1 ++ r = b := by
  cases h : encInt e bo ptr v <;> simp [encOpFields, h, Except.bind_eq_ok]

theorem encodeOp_eq_ok {bo : ByteOrder} {ptr : Nat} {o : OpObj} {bs : List Nat} :
    encodeOp bo ptr o = .ok bs ↔ validateOpArgs (some ptr) o.cls.encs o.args = .ok () ∧
      ∃ r, encOpFields bo ptr o.cls.encs o.args = .ok r ∧
        firstByte o.cls o.args.head? :: r = bs := by
  unfold encodeOp
  cases validateOpArgs (some ptr) o.cls.encs o.args <;> simp [Except.bind_eq_ok]

theorem encodeOps_cons {bo : ByteOrder} {ptr : Nat} {o : OpObj} {os : List OpObj} {e : List Nat} :
    encodeOps bo ptr (o :: os) = .ok e ↔
      ∃ b r, encodeOp bo ptr o = .ok b ∧ encodeOps bo ptr os = .ok r ∧ b ++ r = e := by
  simp [encodeOps, Except.bind_eq_ok]

theorem decOpFields_encOpFields {bo : ByteOrder} {ptr : Nat} :
    ∀ (es : List Enc) (vs : List Int) (b rest : List Nat),
      (∀ e ∈ es, e.notFused = true ∧ e.ok = true) →
      validateOpArgs (some ptr) es vs = .ok () →
      encOpFields bo ptr es vs = .ok b →
      decOpFields bo ptr es (b ++ rest) = .ok (vs, b.length, rest)
  | [], _, b, rest, _, hv, h => by
    cases validateOpArgs_nil.mp hv; cases h; rfl
  | e :: es, _, _, rest, hall, hv, h => by
    obtain ⟨v, vs, rfl, hve, hv⟩ := validateOpArgs_cons.mp hv
    obtain ⟨b1, r, hb1, hr, rfl⟩ := encOpFields_cons.mp h
    obtain ⟨he, hes⟩ := List.forall_mem_cons.mp hall
    have ih := decOpFields_encOpFields es vs r rest hes hv hr
    simp [decOpFields, decInt_encInt (r ++ rest) he.1 he.2 hve hb1, ih, bind, Except.bind]

theorem encOpFields_lt {bo : ByteOrder} {ptr : Nat} :
    ∀ (es : List Enc) (vs : List Int) (b : List Nat),
      encOpFields bo ptr es vs = .ok b → ∀ x ∈ b, x < 256
  | [], [], b, h => by cases h; simp
  | [], _ :: _, _, h => by cases h
  | _ :: _, [], _, h => by cases h
  | e :: es, v :: vs, b, h => by
    obtain ⟨b1, r, hb1, hr, rfl⟩ := encOpFields_cons.mp h
    exact List.forall_mem_append.mpr ⟨encInt_lt hb1, encOpFields_lt es vs r hr⟩

theorem decodeOp_encodeOp {t : Table} (hT : TableOK t = true)
    (bo : ByteOrder) (ptr : Nat) (o : OpObj) (ho : o.cls ∈ t) (bs rest : List Nat)
    (h : encodeOp bo ptr o = .ok bs) :
    decodeOp t bo ptr (bs ++ rest) = .ok (o, bs.length, rest) := by
  obtain ⟨c, args⟩ := o
  obtain ⟨hv, r, hr, rfl⟩ := encodeOp_eq_ok.mp h
  have hok := List.all_eq_true.mp (Bool.and_eq_true_iff.mp hT).1 c ho
  cases hfb : c.fusedBound with
  | none =>
    have hl := lookup_firstByte hT ho (first := args.head?) (by simp [hfb])
    have hdec := decOpFields_encOpFields _ _ r rest (ClassDesc.ok_all hok hfb) hv hr
    simp [decodeOp, readOpcode, hl, hfb, hdec, bind, Except.bind, Nat.add_comm]
  | some k =>
    -- the first operand went into the opcode byte and wrote nothing after it
    obtain ⟨es, hes⟩ := ClassDesc.fusedBound_eq_some.mp hfb
    rw [hes] at hv hr
    obtain ⟨v, vs, rfl, hve, hv'⟩ := validateOpArgs_cons.mp hv
    obtain ⟨_, r', hb1, hr', rfl⟩ := encOpFields_cons.mp hr
    cases hb1
    simp only [validateInt, decide_eq_true_eq] at hve
    have hl := lookup_firstByte hT ho (first := some v) (by simpa [hfb] using hve)
    have hdec := decOpFields_encOpFields _ _ r' rest (ClassDesc.ok_tail hok hes) hv' hr'
    simp [decodeOp, readOpcode, hl, hfb, hes, hdec, bind, Except.bind, Nat.add_comm,
      firstByte_sub hfb hve.1]

theorem encodeOp_length_pos {bo ptr o bs} (h : encodeOp bo ptr o = .ok bs) : 0 < bs.length := by
  obtain ⟨-, r, -, rfl⟩ := encodeOp_eq_ok.mp h
  simp

theorem decodeOpsLoop_encodeOps {t : Table} (hT : TableOK t = true)
    (bo : ByteOrder) (ptr : Nat) :
    ∀ (ops : List OpObj) (e rest : List Nat) (f read len : Nat),
      (∀ o ∈ ops, o.cls ∈ t) → encodeOps bo ptr ops = .ok e →
      e.length ≤ f → read + e.length = len →
      decodeOpsLoop t bo ptr f read len (e ++ rest) = .ok (ops, len, rest)
  | [], e, rest, f, read, len, _, h, _, hlen => by
    cases h
    simp only [List.length_nil, Nat.add_zero] at hlen; subst hlen
    cases f <;> simp [decodeOpsLoop]
  | o :: os, e, rest, f, read, len, hin, h, hf, hlen => by
    obtain ⟨b, r, hb, hr, rfl⟩ := encodeOps_cons.mp h
    -- every operation takes a byte at least, so fuel for the bytes left is fuel enough
    have hpos := encodeOp_length_pos hb
    simp only [List.length_append] at hlen hf
    cases f with
    | zero => omega
    | succ f =>
      have hlt : read < len := by omega
      obtain ⟨ho, hos⟩ := List.forall_mem_cons.mp hin
      have hdec := decodeOp_encodeOp hT bo ptr o ho b (r ++ rest) hb
      have ih := decodeOpsLoop_encodeOps hT bo ptr os r rest f (read + b.length) len hos hr
        (by omega) (by omega)
      simp only [decodeOpsLoop, hlt, ↓reduceIte, List.append_assoc, hdec, ih, bind, Except.bind]

theorem decodeExpr_encodeExpr {t : Table} (hT : TableOK t = true)
    (bo : ByteOrder) (ptr : Nat) (ops : List OpObj) (hin : ∀ o ∈ ops, o.cls ∈ t)
    (bs rest : List Nat) (h : encodeExpr bo ptr ops = .ok bs) :
    decodeExpr t bo ptr (bs ++ rest) = .ok (ops, bs.length, rest) := by
  obtain ⟨e, he, rfl⟩ : ∃ e, encodeOps bo ptr ops = .ok e ∧ ulebEnc e.length ++ e = bs := by
    simpa [encodeExpr, Except.bind_eq_ok] using h
  have := decodeOpsLoop_encodeOps hT bo ptr ops e rest e.length 0 e.length hin he
    (Nat.le_refl _) (Nat.zero_add _)
  simp only [decodeExpr, List.append_assoc, ulebDec_ulebEnc, this, bind, Except.bind,
    List.length_append]

end GtirbVerif.Dwarf
