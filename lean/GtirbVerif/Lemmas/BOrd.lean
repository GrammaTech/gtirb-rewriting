import GtirbVerif.Spec.AdtSpec

/-! `BlockOrdering` against a plain list of chains: every operation is one surgery on one chain
(`Repr.splice`), and says only how it sets the pointers. -/

namespace GtirbVerif.Adt

/-- `l` is a doubly linked run whose first element has predecessor `p` and
whose last element has successor `a` -/
def Linked (o : BOrd) : Option Nat → List Nat → Option Nat → Prop
  | _, [], _ => True
  | p, x :: r, a => o.prev x = p ∧ o.next x = (r.head?.or a) ∧ Linked o (some x) r a

theorem Linked.congr {o o' : BOrd} {l : List Nat} {p a : Option Nat}
    (h : ∀ x ∈ l, o'.prev x = o.prev x ∧ o'.next x = o.next x) (hl : Linked o p l a) :
    Linked o' p l a := by
  induction l generalizing p with
  | nil => trivial
  | cons x r ih =>
    obtain ⟨h1, h2, h3⟩ := hl
    have hx := h x List.mem_cons_self
    exact ⟨hx.1 ▸ h1, hx.2 ▸ h2, ih (fun y hy => h y (List.mem_cons_of_mem _ hy)) h3⟩

theorem Linked.append {o : BOrd} {l1 l2 : List Nat} {p a : Option Nat} :
    Linked o p (l1 ++ l2) a ↔
      Linked o p l1 (l2.head?.or a) ∧ Linked o (l1.getLast?.or p) l2 a := by
  induction l1 generalizing p with
  | nil => simp [Linked]
  | cons x r ih =>
    have e : (x :: r).getLast?.or p = r.getLast?.or (some x) := by
      rw [List.getLast?_cons]; cases r.getLast? <;> rfl
    simp only [List.cons_append, Linked, ih, List.head?_append, Option.or_assoc, e, and_assoc]

/-- `o`, the `prev`/`next` pointers of the `LinkedListNode`s a `BlockOrdering` keeps in `__order`,
represents `cs`, the maximal runs of adjacent blocks.  Trap: inside this namespace the name shadows
core's `Repr`, so a `deriving Repr` after importing this file fails. -/
structure Repr (o : BOrd) (cs : Chains) : Prop where
  nodup : cs.flatten.Nodup
  nonempty : ∀ ch ∈ cs, ch ≠ []
  mem : ∀ b, o.mem b = true ↔ b ∈ cs.flatten
  linked : ∀ ch ∈ cs, Linked o none ch none

/-- neighbours of an element inside a linked run -/
theorem Linked.neighbours {o : BOrd} {pre post : List Nat} {b : Nat} {p a : Option Nat}
    (h : Linked o p (pre ++ b :: post) a) :
    o.prev b = pre.getLast?.or p ∧ o.next b = post.head?.or a := by
  rw [Linked.append] at h
  obtain ⟨_, h2, h3, _⟩ := h
  exact ⟨h2, h3⟩

theorem Repr.mem_false {o : BOrd} {cs : Chains} (h : Repr o cs) {b : Nat} (hb : b ∉ cs.flatten) :
    o.mem b = false := by
  cases hm : o.mem b with
  | false => rfl
  | true => exact absurd ((h.mem b).mp hm) hb

theorem Repr.any_mem {o : BOrd} {cs : Chains} (h : Repr o cs) {bs : List Nat}
    (hnot : ∀ x ∈ bs, x ∉ cs.flatten) : bs.any o.mem = false :=
  List.any_eq_false.mpr fun x hx hm => hnot x hx ((h.mem x).mp hm)

theorem Linked.set_after {o o' : BOrd} {l : List Nat} {p a a' : Option Nat} (hl : Linked o p l a)
    (hnd : l.Nodup) (hprev : ∀ x ∈ l, o'.prev x = o.prev x)
    (hnext : ∀ x ∈ l, o'.next x = if l.getLast? = some x then a' else o.next x) :
    Linked o' p l a' := by
  cases hg : l.getLast? with
  | none => rw [List.getLast?_eq_none_iff.mp hg]; trivial
  | some y =>
    obtain ⟨l', rfl⟩ := List.getLast?_eq_some_iff.mp hg
    rw [hg] at hnext
    rw [Linked.append] at hl ⊢
    have hy : y ∈ l' ++ [y] := List.mem_append_right _ (List.mem_singleton_self y)
    refine ⟨hl.1.congr fun x hx => ⟨hprev x (List.mem_append_left _ hx), ?_⟩,
      (hprev y hy).trans hl.2.1, (hnext y hy).trans (if_pos rfl), trivial⟩
    rw [hnext x (List.mem_append_left _ hx), if_neg]
    exact fun e => (List.nodup_append.mp hnd).2.2 x hx y (List.mem_singleton_self y)
      (Option.some.inj e).symm

theorem Linked.set_before {o o' : BOrd} {l : List Nat} {p p' a : Option Nat} (hl : Linked o p l a)
    (hnd : l.Nodup) (hnext : ∀ x ∈ l, o'.next x = o.next x)
    (hprev : ∀ x ∈ l, o'.prev x = if l.head? = some x then p' else o.prev x) :
    Linked o' p' l a := by
  cases l with
  | nil => trivial
  | cons x r =>
    obtain ⟨_, h2, h3⟩ := hl
    refine ⟨(hprev x List.mem_cons_self).trans (if_pos rfl), (hnext x List.mem_cons_self).trans h2,
      h3.congr fun y hy => ⟨?_, hnext y (List.mem_cons_of_mem _ hy)⟩⟩
    rw [hprev y (List.mem_cons_of_mem _ hy), if_neg]
    rintro ⟨rfl⟩
    exact (List.nodup_cons.mp hnd).1 hy

theorem Linked.splice {o o' : BOrd} {l1 m m' l2 : List Nat}
    (hl : Linked o none (l1 ++ (m ++ l2)) none) (hnd : (l1 ++ l2).Nodup)
    (hm' : Linked o' l1.getLast? m' l2.head?)
    (hprev : ∀ x ∈ l1 ++ l2,
      o'.prev x = if l2.head? = some x then (l1 ++ m').getLast? else o.prev x)
    (hnext : ∀ x ∈ l1 ++ l2,
      o'.next x = if l1.getLast? = some x then (m' ++ l2).head? else o.next x) :
    Linked o' none (l1 ++ (m' ++ l2)) none := by
  rw [Linked.append, Linked.append] at hl ⊢
  simp only [Option.or_none, ← List.getLast?_append] at hl ⊢
  obtain ⟨hnd1, hnd2, hd⟩ := List.nodup_append.mp hnd
  refine ⟨hl.1.set_after hnd1 (fun x hx => ?_) fun x hx => hnext x (by simp [hx]), hm',
    hl.2.2.set_before hnd2 (fun x hx => ?_) fun x hx => hprev x (by simp [hx])⟩
  · rw [hprev x (by simp [hx]), if_neg fun e => hd x hx x (List.mem_of_head? e) rfl]
  · rw [hnext x (by simp [hx]), if_neg fun e => hd x (List.mem_of_getLast? e) x hx rfl]

theorem Repr.perm {o : BOrd} {cs cs' : Chains} (h : Repr o cs) (hp : cs.Perm cs') : Repr o cs' :=
  ⟨hp.flatten.nodup_iff.mp h.nodup, fun ch hc => h.nonempty ch (hp.mem_iff.mpr hc),
    fun b => (h.mem b).trans hp.flatten.mem_iff, fun ch hc => h.linked ch (hp.mem_iff.mpr hc)⟩

/-- `remove_block` on the last block of a chain leaves no chain, where `Repr` allows no empty one -/
def optChain (l : List Nat) : Chains := if l = [] then [] else [l]

theorem mem_optChain {l ch : List Nat} : ch ∈ optChain l ↔ ch = l ∧ l ≠ [] := by
  unfold optChain; split <;> simp [*]

theorem flatten_optChain (l : List Nat) : (optChain l).flatten = l := by
  unfold optChain; split <;> simp [*]

theorem flatten_cut (cs : Chains) (l1 m l2 : List Nat) :
    (optChain (l1 ++ (m ++ l2)) ++ cs).flatten.Perm (m ++ (l1 ++ l2 ++ cs.flatten)) := by
  rw [List.flatten_append, flatten_optChain, ← List.append_assoc m]
  exact (List.perm_append_comm_assoc l1 m l2).append_right _

/-- Every operation of the ordering is this surgery on one chain (absent if it has no block): `m` is
cut out, the fresh `m'` put in.  The pointer equations are asked of every block left alone, not only
of this chain's: that is what keeps the other chains. -/
theorem Repr.splice {o o' : BOrd} {cs : Chains} {l1 m m' l2 : List Nat}
    (h : Repr o (optChain (l1 ++ (m ++ l2)) ++ cs))
    (hfresh : ∀ x ∈ m', o.mem x = false) (hnd : m'.Nodup)
    (hmem : ∀ x, o'.mem x = if x ∈ m' then true else if x ∈ m then false else o.mem x)
    (hm' : Linked o' l1.getLast? m' l2.head?)
    (hprev : ∀ x, x ∉ m → x ∉ m' →
      o'.prev x = if l2.head? = some x then (l1 ++ m').getLast? else o.prev x)
    (hnext : ∀ x, x ∉ m → x ∉ m' →
      o'.next x = if l1.getLast? = some x then (m' ++ l2).head? else o.next x) :
    Repr o' (optChain (l1 ++ (m' ++ l2)) ++ cs) := by
  have hmo : ∀ x, o.mem x = true ↔ x ∈ m ∨ x ∈ l1 ++ l2 ++ cs.flatten := fun x =>
    (h.mem x).trans ((flatten_cut cs l1 m l2).mem_iff.trans List.mem_append)
  obtain ⟨_, hnr, hmr⟩ := List.nodup_append.mp ((flatten_cut cs l1 m l2).nodup_iff.mp h.nodup)
  obtain ⟨hn12, _, hdisj⟩ := List.nodup_append.mp hnr
  have hstay : ∀ x ∈ l1 ++ l2 ++ cs.flatten, x ∉ m ∧ x ∉ m' := fun x hx =>
    ⟨fun hm => hmr x hm x hx rfl, fun hm => by simpa [hfresh x hm] using (hmo x).mpr (Or.inr hx)⟩
  have hl : Linked o none (l1 ++ (m ++ l2)) none := by
    by_cases he : l1 ++ (m ++ l2) = []
    · rw [he]; trivial
    · exact h.linked _ (List.mem_append_left _ (mem_optChain.mpr ⟨rfl, he⟩))
  have chains : ∀ ch ∈ optChain (l1 ++ (m' ++ l2)) ++ cs, ch ≠ [] ∧ Linked o' none ch none := by
    intro ch hc
    rcases List.mem_append.mp hc with hc | hc
    · obtain ⟨rfl, hne⟩ := mem_optChain.mp hc
      have h12 := fun x hx => hstay x (List.mem_append_left cs.flatten hx)
      exact ⟨hne, hl.splice hn12 hm' (fun x hx => hprev x (h12 x hx).1 (h12 x hx).2)
        fun x hx => hnext x (h12 x hx).1 (h12 x hx).2⟩
    · -- another chain: no neighbour of the cut is among its blocks
      have hc' := List.mem_append_right (optChain (l1 ++ (m ++ l2))) hc
      refine ⟨h.nonempty ch hc', (h.linked ch hc').congr fun x hx => ?_⟩
      have hx : x ∈ cs.flatten := List.mem_flatten.mpr ⟨ch, hc, hx⟩
      obtain ⟨h1, h2⟩ := hstay x (List.mem_append_right _ hx)
      rw [hprev x h1 h2, hnext x h1 h2, if_neg, if_neg]
      · exact ⟨rfl, rfl⟩
      · exact fun e => hdisj x (List.mem_append_left _ (List.mem_of_getLast? e)) x hx rfl
      · exact fun e => hdisj x (List.mem_append_right _ (List.mem_of_head? e)) x hx rfl
  refine ⟨(flatten_cut cs l1 m' l2).nodup_iff.mpr (List.nodup_append.mpr ⟨hnd, hnr,
    fun a ha b hb e => (hstay b hb).2 (e ▸ ha)⟩), fun ch hc => (chains ch hc).1, fun x => ?_,
    fun ch hc => (chains ch hc).2⟩
  rw [(flatten_cut cs l1 m' l2).mem_iff, List.mem_append, hmem]
  by_cases h1 : x ∈ m'
  · simp [h1]
  · by_cases h2 : x ∈ m
    · have h3 : x ∉ l1 ++ l2 ++ cs.flatten := fun hx => (hstay x hx).1 h2
      simp only [h1, h2, h3, ↓reduceIte, or_self, Bool.false_eq_true]
    · simp only [h1, h2, hmo, ↓reduceIte, false_or]

theorem removeCore_prev (o : BOrd) (b x : Nat) : (o.removeCore b).prev x =
    if x = b then none else if o.next b = some x then o.prev b else o.prev x := by
  simp only [BOrd.removeCore, fset]
  split
  · rfl
  · cases o.next b <;> simp [fset, eq_comm]

theorem removeCore_next (o : BOrd) (b x : Nat) : (o.removeCore b).next x =
    if x = b then none else if o.prev b = some x then o.next b else o.next x := by
  simp only [BOrd.removeCore, fset]
  split
  · rfl
  · cases o.prev b <;> simp [fset, eq_comm]

theorem removeCore_spec {o : BOrd} {cs1 cs2 : Chains} {pre post : List Nat} {b : Nat}
    (h : Repr o (cs1 ++ (pre ++ b :: post) :: cs2)) :
    Repr (o.removeCore b) (cs1 ++ (if pre ++ post = [] then [] else [pre ++ post]) ++ cs2) := by
  obtain ⟨hpb, hnb⟩ := (h.linked (pre ++ b :: post) (by simp)).neighbours
  have := Repr.splice (o' := o.removeCore b) (l1 := pre) (m := [b]) (m' := []) (l2 := post)
    (h := by simpa [optChain] using h.perm List.perm_middle) (hfresh := by simp) (hnd := by simp)
    (hmem := fun x => ?hmem) (hm' := trivial) (hprev := fun x hx _ => ?hprev)
    (hnext := fun x hx _ => ?hnext)
  case hmem => simp [BOrd.removeCore, fset]
  case hprev => rw [removeCore_prev, if_neg (by simpa using hx), hnb, hpb]; simp
  case hnext => rw [removeCore_next, if_neg (by simpa using hx), hnb, hpb]; simp
  simpa [optChain] using this.perm (List.perm_append_comm_assoc _ cs1 cs2)

theorem linkAfter_prev (o : BOrd) (a b x : Nat) : (o.linkAfter (some a) b).prev x =
    if x = b then some a else if o.next a = some x then some b else o.prev x := by
  simp only [BOrd.linkAfter, fset]
  split
  · rfl
  · cases o.next a <;> simp [fset, eq_comm]

theorem linkAfter_next (o : BOrd) (a b x : Nat) : (o.linkAfter (some a) b).next x =
    if x = a then some b else if x = b then o.next a else o.next x := by
  simp only [BOrd.linkAfter, fset]

theorem linkAfter_spec {o : BOrd} {cs1 cs2 : Chains} {pre post : List Nat} {a b : Nat}
    (h : Repr o (cs1 ++ (pre ++ a :: post) :: cs2)) (hb : o.mem b = false) :
    Repr (o.linkAfter (some a) b) (cs1 ++ (pre ++ [a] ++ b :: post) :: cs2) := by
  obtain ⟨_, hna⟩ := (h.linked (pre ++ a :: post) (by simp)).neighbours
  have hba : b ≠ a := by rintro rfl; rw [(h.mem b).mpr (by simp)] at hb; cases hb
  have := Repr.splice (o' := o.linkAfter (some a) b) (l1 := pre ++ [a]) (m := []) (m' := [b])
    (l2 := post) (h := by simpa [optChain] using h.perm List.perm_middle)
    (hfresh := by simpa using hb) (hnd := by simp) (hmem := fun x => ?hmem)
    (hm' := ⟨?prev_b, ?next_b, trivial⟩) (hprev := fun x _ hx => ?hprev)
    (hnext := fun x _ hx => ?hnext)
  case hmem => simp [BOrd.linkAfter, fset]
  case prev_b => rw [linkAfter_prev]; simp
  case next_b => rw [linkAfter_next, if_neg hba, if_pos rfl, hna]; simp
  case hprev => rw [linkAfter_prev, if_neg (by simpa using hx), hna]; simp
  case hnext =>
    have hxb : x ≠ b := by simpa using hx
    rw [linkAfter_next, if_neg hxb]; simp [eq_comm]
  simpa [optChain] using this.perm (List.perm_append_comm_assoc _ cs1 cs2)

theorem linkNone_spec {o : BOrd} {cs : Chains} {b : Nat}
    (h : Repr o cs) (hb : o.mem b = false) :
    Repr (o.linkAfter none b) (cs ++ [[b]]) := by
  have := Repr.splice (o' := o.linkAfter none b) (l1 := []) (m := []) (m' := [b]) (l2 := [])
    (h := by simpa [optChain] using h) (hfresh := by simpa using hb) (hnd := by simp)
    (hmem := fun x => ?hmem) (hm' := ⟨?prev_b, ?next_b, trivial⟩) (hprev := fun x _ hx => ?hprev)
    (hnext := fun x _ hx => ?hnext)
  case hmem => simp [BOrd.linkAfter, fset]
  case prev_b => simp [BOrd.linkAfter, fset]
  case next_b => simp [BOrd.linkAfter, fset]
  case hprev => simp [BOrd.linkAfter, fset, show x ≠ b by simpa using hx]
  case hnext => simp [BOrd.linkAfter, fset, show x ≠ b by simpa using hx]
  simpa [optChain] using this.perm List.perm_append_comm

theorem insertLoop_spec : ∀ (bs : List Nat) {o : BOrd} {cs1 cs2 : Chains} {pre post : List Nat}
    {a : Nat}, Repr o (cs1 ++ (pre ++ a :: post) :: cs2) → (∀ x ∈ bs, o.mem x = false) → bs.Nodup →
    Repr (o.insertLoop (some a) bs) (cs1 ++ (pre ++ a :: (bs ++ post)) :: cs2)
  | [], o, cs1, cs2, pre, post, a, h, _, _ => by simpa [BOrd.insertLoop] using h
  | b :: bs, o, cs1, cs2, pre, post, a, h, hnot, hnd => by
    simp only [BOrd.insertLoop]
    have ih := insertLoop_spec bs (pre := pre ++ [a]) (post := post) (a := b)
      (linkAfter_spec h (hnot b List.mem_cons_self)) (fun x hx => by
        have hxb : x ≠ b := fun e => (List.nodup_cons.mp hnd).1 (e ▸ hx)
        simp [BOrd.linkAfter, fset, hxb, hnot x (List.mem_cons_of_mem _ hx)])
      (List.nodup_cons.mp hnd).2
    simpa using ih

theorem insertLoop_none_spec {o : BOrd} {cs : Chains} (b : Nat) (bs : List Nat) (h : Repr o cs)
    (hnot : ∀ x ∈ b :: bs, o.mem x = false) (hnd : (b :: bs).Nodup) :
    Repr (o.insertLoop none (b :: bs)) (cs ++ [b :: bs]) := by
  simp only [BOrd.insertLoop]
  have := insertLoop_spec bs (cs1 := cs) (cs2 := []) (pre := []) (post := []) (a := b)
    (by simpa using linkNone_spec h (hnot b List.mem_cons_self)) (fun x hx => by
      have hxb : x ≠ b := fun e => (List.nodup_cons.mp hnd).1 (e ▸ hx)
      simp [BOrd.linkAfter, fset, hxb, hnot x (List.mem_cons_of_mem _ hx)]) (List.nodup_cons.mp hnd).2
  simpa using this

end GtirbVerif.Adt
