import GtirbVerif.Lemmas.IRFields

/-!
# What `insert` and `delete` do to the bytes (model side of C01)

`edit_byte_interval` turns the interval it edits into `Interval.spliced` of it and leaves the others
alone; `delete_interval` and `insert_interval` say the same of a whole `delete` and a whole `insert`, as
a lookup.  The bytes (here) and the symbolic expressions (Props/C04) of an interval are read off that.
-/
namespace GtirbVerif.IR
open GtirbVerif.Adt (CfgNode Label Edge)

def IR.bytesOf (ir : IR) (i : Nat) : Option (List Nat) := (ir.interval? i).map (·.bytes)

def IR.exprsOf (ir : IR) (i : Nat) : Option (List (Nat × SymExpr)) := (ir.interval? i).map (·.symExprs)

theorem bytesOf_congr {a b : IR} (h : a.intervals = b.intervals) (i : Nat) : a.bytesOf i = b.bytesOf i := by
  unfold IR.bytesOf IR.interval?; rw [h]

def Interval.spliced (iv : Interval) (off len : Nat) (content : List Nat) : Interval :=
  { iv with size := iv.size + content.length - len, bytes := spliceBytes iv.bytes off len content,
            symExprs := shiftKeys off len content.length iv.symExprs }

theorem editInterval_interval? (ir : IR) (i off len : Nat) (content st : List Nat) (iv : Interval)
    (h : ir.interval? i = some iv) (j : Nat) :
    (ir.editInterval i off len content st).interval? j =
      if j = i then some (iv.spliced off len content) else ir.interval? j := by
  obtain rfl := interval?_id h
  unfold IR.editInterval
  rw [h]
  show (ir.setInterval _).interval? j = _
  rw [interval?_setInterval]
  show (if j = iv.id then _ else _) = _
  by_cases hj : j = iv.id
  · rw [if_pos hj, if_pos hj, hj, h]; rfl
  · rw [if_neg hj, if_neg hj]

theorem spliceBytes_nothing (bytes : List Nat) (off : Nat) : spliceBytes bytes off 0 [] = bytes := by
  unfold spliceBytes; simp

theorem shiftKeys_nothing {β} (off : Nat) (m : List (Nat × β)) : shiftKeys off 0 0 m = m := by
  unfold shiftKeys
  have hf : (fun (x : Nat × β) => match x with
      | (k, v) => if k < off then some (k, v) else if k ≥ off + 0 then some (k + 0 - 0, v) else none) = some := by
    funext x
    obtain ⟨k, v⟩ := x
    simp only []
    by_cases hk : k < off
    · simp [hk]
    · simp [hk]
  rw [hf]
  exact List.filterMap_some

theorem spliced_nothing (iv : Interval) (off : Nat) : iv.spliced off 0 [] = iv := by
  unfold Interval.spliced
  rw [spliceBytes_nothing, show shiftKeys off 0 ([] : List Nat).length iv.symExprs = iv.symExprs from shiftKeys_nothing off _]
  rfl

theorem interval_after_edit {ir0 ir1 ir2 : IR} {i off len : Nat} {content st : List Nat} {iv : Interval}
    (h0 : ir1.intervals = ir0.intervals) (hiv : ir0.interval? i = some iv)
    (h2 : ir2.intervals = (ir1.editInterval i off len content st).intervals) (j : Nat) :
    ir2.interval? j = if j = i then some (iv.spliced off len content) else ir0.interval? j := by
  rw [interval?_congr h2, editInterval_interval? ir1 i off len content st iv (by rw [interval?_congr h0]; exact hiv),
    interval?_congr h0]

theorem insertSplit_intervals {ir ir' : IR} {b off repl e : Nat} {a : Bool}
    (h : ir.insertSplit b off repl = .ok (ir', e, a)) : ir'.intervals = ir.intervals := by
  obtain ⟨ir1, e0, hs1, ⟨_, _, rfl⟩ | ⟨_, ir2, a2, d, hs2, hr⟩⟩ := insertSplit_ok h
  · rw [connectEmptyTail_intervals, splitBlock_intervals hs1]
  · rw [removeBlock_intervals hr, connectEmptyTail_intervals, splitBlock_intervals hs2, splitBlock_intervals hs1]

theorem delete_interval {ir ir' : IR} {b off len : Nat} {px : Bool} {r : Option Nat} {blk : Block} {i : Nat}
    {iv : Interval}
    (h : ir.delete b off len px = .ok (ir', r))
    (hb : ir.block? b = some blk) (hbi : blk.bi = some i) (hiv : ir.interval? i = some iv) (j : Nat) :
    ir'.interval? j = if j = i then some (iv.spliced (blk.off + off) len []) else ir.interval? j := by
  obtain ⟨blk', i', hb', hbi', hcase⟩ := delete_ok h
  rw [hb] at hb'; cases hb'
  rw [hbi] at hbi'; cases hbi'
  rcases hcase with ⟨rfl, rfl, _⟩ | ⟨ir3, e2, a, last, hs, hc, _⟩ | ⟨_, ir1, d, hr1, rfl | ⟨d3, _, hr3⟩⟩
  · rw [spliced_nothing]
    split
    · rename_i hj; rw [hj, hiv]
    · rfl
  · exact interval_after_edit (insertSplit_intervals hs) hiv (cleanup_intervals hc) j
  · exact interval_after_edit (removeBlock_intervals hr1) hiv rfl j
  · exact interval_after_edit (removeBlock_intervals hr1) hiv (removeBlock_intervals hr3) j

/-- **`delete` removes exactly the requested range** from the block's interval and touches
no other interval. -/
theorem delete_bytes {ir ir' : IR} {b off len : Nat} {px : Bool} {r : Option Nat} {blk : Block} {i : Nat}
    {iv : Interval}
    (h : ir.delete b off len px = .ok (ir', r))
    (hb : ir.block? b = some blk) (hbi : blk.bi = some i) (hiv : ir.interval? i = some iv) :
    ir'.bytesOf i = some (spliceBytes iv.bytes (blk.off + off) len []) ∧
    ∀ j, j ≠ i → ir'.bytesOf j = ir.bytesOf j := by
  unfold IR.bytesOf
  refine ⟨by rw [delete_interval h hb hbi hiv, if_pos rfl]; rfl, fun j hj => ?_⟩
  rw [delete_interval h hb hbi hiv, if_neg hj]

def IntervalsKept (a b : IR) : Prop := ∀ j, a.interval? j ≠ none → b.interval? j = a.interval? j

theorem IntervalsKept.refl (a : IR) : IntervalsKept a a := fun _ _ => rfl

theorem IntervalsKept.trans {a b c : IR} (h1 : IntervalsKept a b) (h2 : IntervalsKept b c) : IntervalsKept a c := by
  intro j hj
  have hb := h1 j hj
  rw [h2 j (by rw [hb]; exact hj), hb]

/-- `b` has every interval of `a`, with the same bytes (it may have more) -/
def BytesKept (a b : IR) : Prop := ∀ j, a.bytesOf j ≠ none → b.bytesOf j = a.bytesOf j

theorem BytesKept.of_intervals {a b : IR} (h : b.intervals = a.intervals) : BytesKept a b :=
  fun j _ => bytesOf_congr h j

@[simp] theorem insertStitch_intervals (ir : IR) (tb : List Block) (b e : Nat) (a : Bool) :
    (ir.insertStitch tb b e a).intervals = ir.intervals := insertStitch_obs _ intervals_graphFree.cfg ..
@[simp] theorem placePatchBlocks_intervals (ir : IR) (tb : List Block) (i base : Nat) :
    (ir.placePatchBlocks tb i base).intervals = ir.intervals := rfl
@[simp] theorem addPatchNodes_intervals (ir : IR) (p : Patch) (c : List Edge) (px : List Nat) :
    (ir.addPatchNodes p c px).intervals = ir.intervals := rfl
@[simp] theorem addPatchAux_intervals (ir : IR) (p : Patch) (i base : Nat) :
    (ir.addPatchAux p i base).intervals = ir.intervals := rfl
@[simp] theorem bumpNext_intervals (ir : IR) (p : Patch) : (ir.bumpNext p).intervals = ir.intervals := rfl
@[simp] theorem addPatchFunctions_intervals (ir : IR) (blk : Block) (tb : List Block) :
    (ir.addPatchFunctions blk tb).intervals = ir.intervals := addPatchFunctions_obs _ intervals_funcsFree ..
@[simp] theorem addReturnEdgesForPatchCalls_intervals (ir : IR) (pcfg : List Edge) :
    (ir.addReturnEdgesForPatchCalls pcfg).1.intervals = ir.intervals :=
  addReturnEdgesForPatchCalls_obs _ intervals_graphFree.cfg ..

theorem addPatchExprs_interval? (ir : IR) (i base : Nat) (ex : List (Nat × SymExpr)) (j : Nat) :
    (ir.addPatchExprs i base ex).interval? j =
      if j = i then (ir.interval? i).map (fun bi =>
        { bi with symExprs := ex.foldl (fun m (x : Nat × SymExpr) => aset (base + x.1) x.2 m) bi.symExprs })
      else ir.interval? j := by
  unfold IR.addPatchExprs
  split
  · rename_i hbi
    by_cases hj : j = i
    · rw [if_pos hj, hj, hbi]; rfl
    · rw [if_neg hj]
  · rename_i bi hbi
    obtain rfl := interval?_id hbi
    rw [interval?_setInterval]
    show (if j = bi.id then _ else _) = _
    by_cases hj : j = bi.id
    · rw [if_pos hj, if_pos hj, hj, hbi]; rfl
    · rw [if_neg hj, if_neg hj]

theorem addOtherSection_kept {ir ir' : IR} {p : Patch} {s : PatchSect} {sid bid : Nat} {ns : List Sym}
    (h : ir.addOtherSection p s sid bid = .ok (ir', ns)) : IntervalsKept ir ir' := by
  obtain ⟨kept, aux1, _, rfl, _⟩ := addOtherSection_ok h
  -- the new interval is appended: a lookup that succeeded before finds the same interval
  intro j hj
  rw [interval?_append (orderAppend_intervals ..)]
  cases hf : ir.interval? j with
  | none => exact absurd hf hj
  | some v => rfl

theorem addOthers_kept {ir ir' : IR} {p : Patch} (h : ir.addOthers p = .ok ir') : IntervalsKept ir ir' :=
  addOthers_rel IntervalsKept.refl IntervalsKept.trans (fun _ _ _ _ => rfl) (fun _ _ => addOtherSection_kept) h

theorem insert_interval {ir ir' : IR} {b off repl last : Nat} {p : Patch} {blk : Block} {i : Nat} {iv : Interval}
    (h : ir.insert b off repl p = .ok (ir', last))
    (hb : ir.block? b = some blk) (hbi : blk.bi = some i) (hiv : ir.interval? i = some iv) :
    ir'.interval? i = some { iv.spliced (blk.off + off) repl p.text.data with
      symExprs := p.text.symExprs.foldl (fun m (x : Nat × SymExpr) => aset (blk.off + off + x.1) x.2 m)
        (shiftKeys (blk.off + off) repl p.text.data.length iv.symExprs) } ∧
    ∀ j, j ≠ i → ir.interval? j ≠ none → ir'.interval? j = ir.interval? j := by
  obtain ⟨blk', i', sect, ir2, endB, added, ir12, hb', hbi', _, hs, ho, hc⟩ := insert_ok h
  rw [hb] at hb'; cases hb'
  rw [hbi] at hbi'; cases hbi'
  have hc : ir'.intervals = ir12.intervals := (cleanup_intervals hc).trans (bumpNext_intervals ir12 p)
  have hK := addOthers_kept ho
  -- up to the other sections: the byte edit, then the patch's expressions; nothing else writes an interval
  have hX : ∀ j, (ir.insertTables ir2 (ir.insertPlace ir2 blk i b off repl endB added p) blk i sect b off p).interval? j =
      if j = i then some { iv.spliced (blk.off + off) repl p.text.data with
        symExprs := p.text.symExprs.foldl (fun m (x : Nat × SymExpr) => aset (blk.off + off + x.1) x.2 m)
          (shiftKeys (blk.off + off) repl p.text.data.length iv.symExprs) }
      else ir.interval? j := fun j => by
    have hE := interval_after_edit (ir0 := ir) (i := i) (off := blk.off + off) (len := repl) (content := p.text.data)
      (st := [b]) (ir1 := (ir2.addReturnEdgesForPatchCalls (ir.patchCfg blk b p).1).1.insertStitch p.text.blocks b endB added)
      (ir2 := ir.insertPlace ir2 blk i b off repl endB added p)
      (by rw [insertStitch_intervals, addReturnEdgesForPatchCalls_intervals, insertSplit_intervals hs]) hiv rfl
    rw [IR.insertTables, interval?_congr (by simp only [addPatchFunctions_intervals, addPatchAux_intervals,
      addPatchNodes_intervals, orderInsertAfter_intervals] : _ = ((ir.insertPlace ir2 blk i b off repl endB added p).addPatchExprs
        i (blk.off + off) p.text.symExprs).intervals), addPatchExprs_interval?, hE i, hE j, if_pos rfl]
    by_cases hj : j = i
    · rw [if_pos hj, if_pos hj]; rfl
    · rw [if_neg hj, if_neg hj, if_neg hj]
  constructor
  · rw [interval?_congr hc, hK i (by rw [hX, if_pos rfl]; exact Option.some_ne_none _), hX, if_pos rfl]
  · intro j hj hne
    rw [interval?_congr hc, hK j (by rw [hX, if_neg hj]; exact hne), hX, if_neg hj]

/-- **`insert` splices exactly the patch bytes** over the replaced range of the block's
interval and keeps the bytes of every other interval the module had. -/
theorem insert_bytes {ir ir' : IR} {b off repl last : Nat} {p : Patch} {blk : Block} {i : Nat} {iv : Interval}
    (h : ir.insert b off repl p = .ok (ir', last))
    (hb : ir.block? b = some blk) (hbi : blk.bi = some i) (hiv : ir.interval? i = some iv) :
    ir'.bytesOf i = some (spliceBytes iv.bytes (blk.off + off) repl p.text.data) ∧
    ∀ j, j ≠ i → ir.bytesOf j ≠ none → ir'.bytesOf j = ir.bytesOf j := by
  obtain ⟨h1, h2⟩ := insert_interval h hb hbi hiv
  unfold IR.bytesOf
  refine ⟨by rw [h1]; rfl, fun j hj hne => ?_⟩
  rw [h2 j hj (fun hn => hne (by rw [hn]; rfl))]

end GtirbVerif.IR
