import GtirbVerif.Lemmas.IRFields

/-!
# Where symbols point after split / join / remove (model side of C02)

`IR.symPos ir y` is the place a symbol designates: (byte interval, offset inside it) — the
start of its block, or the end when `at_end`; `IR.posAt ir c k` is the place `k` bytes into block `c`.
Splitting and joining blocks move no place (`splitBlock_posAt`, `joinBlocks_posAt`); the theorems about
symbols (here) and about offset-keyed table entries (Props/C04.lean) rewrite with these two.
-/
namespace GtirbVerif.IR
open GtirbVerif.Adt (CfgNode Label Edge)

def Block.place (blk : Block) (atEnd : Bool) : Option (Nat × Nat) :=
  match blk.bi with
  | some i => some (i, blk.off + (if atEnd then blk.size else 0))
  | none => none

def IR.symPos (ir : IR) (y : Sym) : Option (Nat × Nat) :=
  match y.ref with
  | .block b => (ir.block? b).bind (·.place y.atEnd)
  | _ => none

def IR.posAt (ir : IR) (c k : Nat) : Option (Nat × Nat) :=
  (ir.block? c).bind (fun blk => blk.bi.map (fun i => (i, blk.off + k)))

theorem symPos_block {ir : IR} {y : Sym} {c : Nat} {blk : Block} (hr : y.ref = .block c) (hb : ir.block? c = some blk) :
    ir.symPos y = ir.posAt c (if y.atEnd then blk.size else 0) := by
  unfold IR.symPos IR.posAt Block.place
  rw [hr]; simp only []; rw [hb, Option.bind_some, Option.bind_some]
  cases blk.bi <;> rfl

theorem symPos_some {ir : IR} {y : Sym} {pos : Nat × Nat} (h : ir.symPos y = some pos) :
    ∃ c blk, y.ref = .block c ∧ ir.block? c = some blk := by
  unfold IR.symPos at h
  cases hr : y.ref with
  | none => rw [hr] at h; cases h
  | proxy p => rw [hr] at h; cases h
  | block c =>
    rw [hr] at h
    cases hb : ir.block? c with
    | none => simp only [hb] at h; cases h
    | some blk => exact ⟨c, blk, rfl, hb⟩

def splitSym (b nb : Nat) (s : Sym) : Sym :=
  if s.ref == .block b && s.atEnd then { s with ref := .block nb } else s

theorem splitBlocks_block? (ir : IR) (blk : Block) (b nb off : Nat) (hb : ir.block? b = some blk)
    (hfresh : ir.block? nb = none) (c : Nat) :
    (ir.splitBlocks blk nb off).block? c =
      if c = b then some { blk with size := off }
      else if c = nb then some { id := nb, isCode := blk.isCode, bi := blk.bi, off := blk.off + off, size := blk.size - off }
      else ir.block? c := by
  -- the head is written in place, the tail is appended and found only when nothing else has its id
  rw [block?_append (a := ir.setBlock { blk with size := off }) rfl, block?_setBlock]
  simp only [block?_id hb]
  by_cases hc : c = b
  · subst hc; simp [hb]
  · by_cases hn : c = nb
    · subst hn; simp [hc, hfresh]
    · simp [hc, hn, Ne.symm hn]

theorem splitBlock_syms_blocks {ir ir' : IR} {b off nb : Nat} {added : Bool} {blk : Block}
    (h : ir.splitBlock b off = .ok (ir', nb, added)) (hb : ir.block? b = some blk) :
    nb = ir.next ∧ off ≤ blk.size ∧ ir'.syms = ir.syms.map (splitSym b nb) ∧
      ir'.blocks = (ir.splitBlocks blk nb off).blocks := by
  obtain ⟨blk', sect, hb', hoff, _, hnb, r, hr, _, rfl⟩ := splitBlock_ok h
  rw [hb] at hb'; cases hb'
  have hc : r.1.core = ((ir.splitBlocks blk nb off).splitSyms b nb).core :=
    hr ▸ splitCodeIf_obs _ core_graphFree.cfg core_funcsFree ..
  exact ⟨hnb, hoff, by rw [orderInsertAfter_syms, splitTables_syms, core_syms hc]; rfl,
    by rw [orderInsertAfter_blocks, splitTables_blocks, core_blocks hc]; rfl⟩

theorem splitBlock_block? {ir ir' : IR} {b off nb : Nat} {added : Bool} {blk : Block}
    (h : ir.splitBlock b off = .ok (ir', nb, added)) (hb : ir.block? b = some blk)
    (hfresh : ir.block? ir.next = none) (c : Nat) :
    ir'.block? c =
      if c = b then some { blk with size := off }
      else if c = nb then some { id := nb, isCode := blk.isCode, bi := blk.bi, off := blk.off + off, size := blk.size - off }
      else ir.block? c := by
  obtain ⟨hnb, _, _, hblocks⟩ := splitBlock_syms_blocks h hb
  subst hnb
  rw [block?_congr hblocks]
  exact splitBlocks_block? ir blk b ir.next off hb hfresh c

theorem splitBlock_posAt {ir ir' : IR} {b off nb : Nat} {added : Bool} {blk : Block}
    (h : ir.splitBlock b off = .ok (ir', nb, added)) (hb : ir.block? b = some blk)
    (hfresh : ir.block? ir.next = none) (c k : Nat) :
    ir'.posAt c k = if c = nb then ir.posAt b (off + k) else ir.posAt c k := by
  have hne : nb ≠ b := by rintro rfl; rw [(splitBlock_syms_blocks h hb).1, hfresh] at hb; cases hb
  unfold IR.posAt
  rw [splitBlock_block? h hb hfresh]
  by_cases hn : c = nb
  · rw [if_pos hn, if_pos hn, if_neg (hn ▸ hne), hb]
    simp only [Option.bind_some, Nat.add_assoc]
  · rw [if_neg hn, if_neg hn]
    by_cases hc : c = b
    · rw [if_pos hc, hc, hb]; rfl
    · rw [if_neg hc]

theorem splitSym_end {b nb : Nat} {y : Sym} (hr : y.ref = .block b) (ha : y.atEnd = true) :
    splitSym b nb y = { y with ref := .block nb } := by
  unfold splitSym; rw [if_pos (by rw [hr, ha]; simp)]

theorem splitSym_other {b nb : Nat} {y : Sym} (h : ¬ (y.ref = .block b ∧ y.atEnd = true)) : splitSym b nb y = y := by
  unfold splitSym; rw [if_neg (by simpa using h)]

/-- **Splitting a block moves no symbol**: every symbol designates the same place afterwards
(end-of-block symbols follow the tail block). -/
theorem splitBlock_symPos {ir ir' : IR} {b off nb : Nat} {added : Bool} {blk : Block}
    (h : ir.splitBlock b off = .ok (ir', nb, added)) (hb : ir.block? b = some blk)
    (hfresh : ir.block? ir.next = none) (y : Sym) (pos : Nat × Nat) (hy : ir.symPos y = some pos) :
    ir'.symPos (splitSym b nb y) = some pos := by
  obtain ⟨hnb, hoff, _, _⟩ := splitBlock_syms_blocks h hb
  have hne : nb ≠ b := by rintro rfl; rw [hnb, hfresh] at hb; cases hb
  have look := splitBlock_block? h hb hfresh
  obtain ⟨c, blkc, hr, hbc⟩ := symPos_some hy
  rw [symPos_block hr hbc] at hy
  by_cases hcb : c = b
  · subst hcb
    rw [hb] at hbc; cases hbc
    by_cases hae : y.atEnd = true
    · have hl := look nb
      rw [if_neg hne, if_pos rfl] at hl
      rw [splitSym_end hr hae, symPos_block (y := { y with ref := .block nb }) rfl hl, splitBlock_posAt h hb hfresh,
        if_pos rfl, if_pos hae]
      rw [if_pos hae] at hy
      rw [← hy]
      exact congrArg (ir.posAt c) (Nat.add_sub_cancel' hoff)
    · have hl := look c
      rw [if_pos rfl] at hl
      rw [if_neg hae] at hy
      rw [splitSym_other (fun hh => hae hh.2), symPos_block hr hl, splitBlock_posAt h hb hfresh, if_neg (Ne.symm hne),
        if_neg hae]
      exact hy
  · have hcn : c ≠ nb := by rintro rfl; rw [hnb, hfresh] at hbc; cases hbc
    have hl := look c
    rw [if_neg hcb, if_neg hcn, hbc] at hl
    rw [splitSym_other (fun hh => hcb (by rw [hr] at hh; exact Referent.block.inj hh.1)), symPos_block hr hl,
      splitBlock_posAt h hb hfresh, if_neg hcn]
    exact hy

def joinSym (b1 : Block) (id2 : Nat) (s : Sym) : Sym :=
  if s.ref == .block id2 then
    { s with ref := .block b1.id, atEnd := if b1.size != 0 then true else s.atEnd }
  else s

theorem joinBlocks_syms_blocks {ir ir' : IR} {id1 id2 : Nat} {b1 b2 : Block}
    (h : ir.joinBlocks id1 id2 = .ok ir') (h1 : ir.block? id1 = some b1) (h2 : ir.block? id2 = some b2) :
    ir.notJoinable b1 b2 = none ∧ ir'.syms = ir.syms.map (joinSym b1 id2) ∧
      ir'.blocks = ((ir.setBlock { b1 with size := b1.size + b2.size }).setBlock { b2 with bi := none }).blocks := by
  obtain ⟨hj, sect, _, rfl⟩ := joinBlocks_ok h h1 h2
  have hc := joinCodeIf_obs _ core_graphFree.cfg core_funcsFree (ir.joinSyms b1 id2) b2.isCode b1 id2 b2.size
  refine ⟨hj, by rw [setBlock_syms, orderRemove_syms, setBlock_syms, joinTables_syms, core_syms hc]; rfl, ?_⟩
  unfold IR.setBlock
  rw [orderRemove_blocks, joinTables_blocks, core_blocks hc]
  rfl

theorem joinBlocks_block? {ir ir' : IR} {id1 id2 : Nat} {b1 b2 : Block}
    (h : ir.joinBlocks id1 id2 = .ok ir') (h1 : ir.block? id1 = some b1) (h2 : ir.block? id2 = some b2) (c : Nat) :
    ir'.block? c =
      if c = id2 then some { b2 with bi := none }
      else if c = id1 then some { b1 with size := b1.size + b2.size } else ir.block? c := by
  rw [block?_congr (joinBlocks_syms_blocks h h1 h2).2.2, block?_setBlock, block?_setBlock]
  simp only [block?_id h1, block?_id h2]
  by_cases hc2 : c = id2
  · -- the second write finds an entry under `id2` whether or not the first one was to the same id
    subst hc2
    rw [if_pos rfl, if_pos rfl, h2]
    split <;> rfl
  · rw [if_neg hc2, if_neg hc2]
    by_cases hc1 : c = id1
    · subst hc1; rw [if_pos rfl, if_pos rfl, h1]; rfl
    · rw [if_neg hc1, if_neg hc1]

theorem posAt_joinable {ir : IR} {id1 id2 : Nat} {b1 b2 : Block} (hj : ir.notJoinable b1 b2 = none)
    (h1 : ir.block? id1 = some b1) (h2 : ir.block? id2 = some b2) (k : Nat) :
    ir.posAt id2 k = ir.posAt id1 (b1.size + k) := by
  obtain ⟨hbi, _, hadj, _⟩ := notJoinable_none hj
  unfold IR.posAt
  rw [h1, h2, Option.bind_some, Option.bind_some, ← hbi, ← hadj, Nat.add_assoc]

theorem joinBlocks_posAt {ir ir' : IR} {id1 id2 : Nat} {b1 b2 : Block}
    (h : ir.joinBlocks id1 id2 = .ok ir') (h1 : ir.block? id1 = some b1) (h2 : ir.block? id2 = some b2)
    (c k : Nat) : ir'.posAt c k = if c = id2 then none else ir.posAt c k := by
  unfold IR.posAt
  rw [joinBlocks_block? h h1 h2]
  by_cases hc2 : c = id2
  · rw [if_pos hc2, if_pos hc2]; rfl
  · rw [if_neg hc2, if_neg hc2]
    by_cases hc1 : c = id1
    · rw [if_pos hc1, hc1, h1]; rfl
    · rw [if_neg hc1]

theorem joinSym_2 {b1 : Block} {id2 : Nat} {y : Sym} (hr : y.ref = .block id2) :
    joinSym b1 id2 y = { y with ref := .block b1.id, atEnd := if b1.size != 0 then true else y.atEnd } := by
  unfold joinSym; rw [if_pos (by rw [hr]; simp)]

theorem joinSym_other {b1 : Block} {id2 : Nat} {y : Sym} (hr : y.ref ≠ .block id2) : joinSym b1 id2 y = y := by
  unfold joinSym; rw [if_neg (by simpa using hr)]

/-- **Joining two blocks moves no symbol** — provided no end-of-block symbol sits on block1
when block2 has bytes: `are_joinable` checks this for a non-empty block1 (`notJoinable_none_end`) and
passes an empty one unseen; there its callers establish the premise by splitting first
(`C02.split_leaves_no_end_symbol_on_head`). -/
theorem joinBlocks_symPos {ir ir' : IR} {id1 id2 : Nat} {b1 b2 : Block}
    (h : ir.joinBlocks id1 id2 = .ok ir') (h1 : ir.block? id1 = some b1) (h2 : ir.block? id2 = some b2)
    (hne : id1 ≠ id2)
    (hend : b2.size = 0 ∨ ∀ y ∈ ir.syms, y.ref = .block id1 → y.atEnd = false)
    (y : Sym) (hy : y ∈ ir.syms) (pos : Nat × Nat) (hp : ir.symPos y = some pos) :
    ir'.symPos (joinSym b1 id2 y) = some pos := by
  have hj := (joinBlocks_syms_blocks h h1 h2).1
  obtain ⟨_, _, _, hsym⟩ := notJoinable_none hj
  have e1 : b1.id = id1 := block?_id h1
  have e2 : b2.id = id2 := block?_id h2
  have look := joinBlocks_block? h h1 h2
  have hl1 := look id1
  rw [if_neg hne, if_pos rfl] at hl1
  obtain ⟨c, blkc, hr, hbc⟩ := symPos_some hp
  rw [symPos_block hr hbc] at hp
  by_cases hc2 : c = id2
  · subst hc2
    rw [h2] at hbc; cases hbc
    rw [posAt_joinable hj h1 h2] at hp
    rw [joinSym_2 hr, symPos_block (y := { y with ref := .block b1.id, atEnd := _ }) (c := id1) (by rw [e1]) hl1,
      joinBlocks_posAt h h1 h2, if_neg hne, ← hp]
    refine congrArg (ir.posAt id1) ?_
    show (if (if b1.size != 0 then true else y.atEnd) = true then b1.size + b2.size else 0) = _
    rcases hsym with hz | hall
    · rw [hz]; simp
    · rw [hall y hy (by rw [e2]; exact hr)]; simp
  · have hr2 : y.ref ≠ .block id2 := by rw [hr]; exact fun hh => hc2 (Referent.block.inj hh)
    rw [joinSym_other hr2]
    by_cases hc1 : c = id1
    · -- a symbol of block1 keeps its place unless it stood at the end and block2 has bytes
      subst hc1
      rw [h1] at hbc; cases hbc
      rw [symPos_block hr hl1, joinBlocks_posAt h h1 h2, if_neg hne, ← hp]
      refine congrArg (ir.posAt c) ?_
      show (if y.atEnd = true then b1.size + b2.size else 0) = _
      rcases hend with hz | hno
      · rw [hz]; rfl
      · rw [hno y hy hr]; rfl
    · have hl := look c
      rw [if_neg hc2, if_neg hc1, hbc] at hl
      rw [symPos_block hr hl, joinBlocks_posAt h h1 h2, if_neg hc2]
      exact hp

def removeSym (b : Nat) (t : Referent × Bool) (s : Sym) : Sym :=
  if s.ref == .block b then { s with ref := t.1, atEnd := t.2 } else s

theorem removeStages_syms (ir : IR) (blk : Block) (t c : Bool) (px p n : Option Nat) :
    (ir.removeStages blk t c px p n).syms =
      if c then ir.syms.map (removeSym blk.id (removeTarget px n p)) else ir.syms := by
  cases c
  · rw [removeStages_false, removeCfi_syms, removeAuxEntries_syms, core_syms (removeOutEdges_core _ _)]; rfl
  · rw [removeStages_true, removeCfi_syms, removeAuxEntries_syms, core_syms (removeOutEdges_core _ _),
      removeEntrypoints_syms, core_syms (removeFunctions_core _ _ _ _), core_syms (removeInEdges_core _ _ _ _ _)]
    rfl

@[simp] theorem keepEmpty_syms (ir : IR) (blk : Block) : (ir.keepEmpty blk).syms = ir.syms :=
  keepEmpty_obs IR.syms (fun _ _ _ _ => rfl) ..

/-- **where the symbols of a removed block go**: to the fresh proxy when `retarget_to_proxy`,
else to the start of the next block, else to the end of the previous one; a block that has to
stay (zero-sized) keeps its symbols. -/
theorem removeBlock_syms {ir ir' : IR} {b : Nat} {px r : Bool} {blk : Block}
    (h : ir.removeBlock b px = .ok (ir', r)) (hb : ir.block? b = some blk) :
    ir'.syms = if r then
        ir.syms.map (removeSym b (removeTarget (if px then some ir.next else none) (ir.adjacent blk).2 (ir.adjacent blk).1))
      else ir.syms := by
  obtain ⟨sect, _, _, rfl⟩ := removeBlock_ok h hb
  cases r
  · rw [cond_false, keepEmpty_syms, removeStages_syms, core_syms (withProxy_core _ _)]; rfl
  · rw [cond_true, setBlock_syms, orderRemove_syms, removeStages_syms, core_syms (withProxy_core _ _), block?_id hb]

end GtirbVerif.IR
