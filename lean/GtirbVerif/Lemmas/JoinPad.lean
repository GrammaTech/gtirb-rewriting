import GtirbVerif.Lemmas.Intervals

/-!
# join_byte_intervals (C10)

`join` is its loop `joinFold` started at the first interval; one step, `joinOne`, is: fill the uninitialized
tail, pad up to the boundary asked for, append (`joinOne_eq`).  Both paddings are `insertPadding`, whose effect
on the state is the transitive relation `Padded`.  Where nothing is to fill and nothing is asked for a step is
`joinPlain`, the gluing of Lemmas/Intervals.lean.
-/
namespace GtirbVerif.Intervals

/-- the loop inside `join`, with the model's own body (so that `join` unfolds to it by `rfl`) -/
def joinFold (nop : List Nat) (alignB : Nat → Option Nat) (rest : List (Iv × Option Nat)) (st : JoinState) :
    Except JoinErr JoinState :=
  rest.foldl (fun (acc : Except JoinErr JoinState) (p : Iv × Option Nat) =>
    match acc with
    | .error e => .error e
    | .ok st => joinOne nop alignB st p.1 p.2) (.ok st)

theorem joinFold_cons (nop : List Nat) (alignB : Nat → Option Nat) (p : Iv × Option Nat) (rest : List (Iv × Option Nat))
    (st : JoinState) : joinFold nop alignB (p :: rest) st = (joinOne nop alignB st p.1 p.2).bind (joinFold nop alignB rest) := by
  unfold joinFold
  simp only [List.foldl_cons]
  cases joinOne nop alignB st p.1 p.2 with
  | ok st' => rfl
  | error e => exact List.foldl_error _ (fun _ _ => rfl) _ _

/-- `st0` of `join` -/
def JoinState.init (d : Iv) (nextId : Nat) : JoinState := ⟨d, d.addr.getD 0 + d.size, lastBlock d.blocks, nextId⟩

theorem join_ok_iff {nop : List Nat} {alignB : Nat → Option Nat} {d : Iv} {a : Option Nat} {rest : List (Iv × Option Nat)}
    {nextId : Nat} {r : Iv} : join nop alignB ((d, a) :: rest) nextId = .ok r ↔
      ∃ st, joinFold nop alignB rest (.init d nextId) = .ok st ∧ st.dest = r := by
  cases rest with
  | nil => simp [join, joinFold, JoinState.init]
  | cons p rest =>
    have : join nop alignB ((d, a) :: p :: rest) nextId =
        match joinFold nop alignB (p :: rest) (.init d nextId) with
        | .error e => .error e
        | .ok st => .ok st.dest := rfl
    rw [this]
    cases joinFold nop alignB (p :: rest) (.init d nextId) <;> simp

theorem alignUp_of_le_one {x a : Nat} (h : a ≤ 1) : alignUp x a = x := by simp [alignUp, h]

theorem alignUp_spec (x a : Nat) (ha : 1 < a) : alignUp x a % a = 0 ∧ x ≤ alignUp x a ∧ alignUp x a < x + a := by
  rw [alignUp, if_neg (by omega)]
  exact roundUp_spec x a (by omega)

/-- padding behind `last`: whole nops after code, zeros after data (or after nothing) -/
def PadOk (last : Option Blk) (nop pad : List Nat) : Prop :=
  if (last.map (·.isCode)).getD false then ∃ k, pad = (List.replicate k nop).flatten
  else pad = List.replicate pad.length 0

theorem repeatTo_mul (nop : List Nat) (hne : nop ≠ []) :
    ∀ k, repeatTo nop (k * nop.length) = (List.replicate k nop).flatten := by
  have hl : 0 < nop.length := List.length_pos_iff.mpr hne
  intro k
  induction k with
  | zero => rw [Nat.zero_mul, repeatTo]; rfl
  | succ j ih =>
    -- `repeatTo` matches on a successor
    obtain ⟨m, hm⟩ : ∃ m, (j + 1) * nop.length = m + 1 :=
      ⟨_, (Nat.sub_add_cancel (Nat.mul_pos (Nat.succ_pos j) hl)).symm⟩
    rw [hm, repeatTo, if_neg (by simpa using hne), ← hm, Nat.succ_mul, Nat.add_sub_cancel, ih, List.replicate_succ,
      List.flatten_cons]

structure Padded (st st' : JoinState) (pad : List Nat) : Prop where
  contents : st'.dest.contents = st.dest.contents ++ pad
  size : st'.dest.size = st.dest.size
  addr : st'.dest.addr = st.dest.addr
  anns : st'.dest.anns = st.dest.anns
  address : st'.address = st.address
  blocks : st.dest.blocks ⊆ st'.dest.blocks
  kind : (st'.last.map (·.isCode)).getD false = (st.last.map (·.isCode)).getD false

theorem Padded.trans {st st1 st2 : JoinState} {p q : List Nat} (h1 : Padded st st1 p) (h2 : Padded st1 st2 q) :
    Padded st st2 (p ++ q) :=
  ⟨by rw [h2.contents, h1.contents, List.append_assoc], h2.size.trans h1.size, h2.addr.trans h1.addr,
    h2.anns.trans h1.anns, h2.address.trans h1.address, fun _ hb => h2.blocks (h1.blocks hb), h2.kind.trans h1.kind⟩

theorem insertPadding_zero (st : JoinState) (nop : List Nat) : insertPadding st nop 0 = .ok st := by
  simp [insertPadding]

theorem insertPadding_spec {st st' : JoinState} {nop : List Nat} {size : Nat}
    (h : insertPadding st nop size = .ok st') :
    ∃ pad, pad.length = size ∧ PadOk st.last nop pad ∧ Padded st st' pad ∧
      (st'.dest.blocks = st.dest.blocks ∨
        ∃ pb : Blk, st'.dest.blocks = st.dest.blocks ++ [pb] ∧ pb.off + pb.size = st'.dest.contents.length ∧
          pb.isCode = (st.last.map (·.isCode)).getD false) := by
  unfold insertPadding at h
  by_cases h0 : (size == 0) = true
  · -- nothing to pad: the state comes back as it is
    rw [if_pos h0] at h
    cases h
    obtain rfl : size = 0 := by simpa using h0
    refine ⟨[], rfl, ?_, ⟨(List.append_nil _).symm, rfl, rfl, rfl, rfl, fun _ hb => hb, rfl⟩, .inl rfl⟩
    unfold PadOk
    split
    · exact ⟨0, rfl⟩
    · rfl
  · rw [if_neg h0] at h
    simp only [] at h
    split at h
    · cases h
    next pad hr =>
      -- `hr` is the choice of the bytes, by the kind of the block in front
      have hpad : pad.length = size ∧ PadOk st.last nop pad := by
        unfold PadOk
        by_cases hc : (st.last.map (·.isCode)).getD false = true
        · -- code: `size / |nop|` whole nops; refused when there is no nop or it does not divide `size`
          rw [if_pos hc] at hr ⊢
          rcases ite_eq_iff.mp hr with ⟨_, hr⟩ | ⟨hne, hr⟩
          · cases hr
          rcases ite_eq_iff.mp hr with ⟨_, hr⟩ | ⟨hdiv, hr⟩
          · cases hr
          cases hr
          have hk : size / nop.length * nop.length = size :=
            Nat.div_mul_cancel (Nat.dvd_of_mod_eq_zero (by simpa using hdiv))
          have hs := repeatTo_mul nop (by simpa using hne) (size / nop.length)
          rw [hk] at hs
          rw [hs, List.length_flatten, List.map_replicate, List.sum_replicate_nat]
          exact ⟨hk, _, rfl⟩
        · -- data, or nothing: zeros
          rw [if_neg hc] at hr ⊢
          cases hr
          exact ⟨List.length_replicate, by rw [List.length_replicate]⟩
      -- the bytes go behind the contents; a padding block is added iff the last block ends before them
      split at h
      next hpos =>
        cases h
        exact ⟨pad, hpad.1, hpad.2, ⟨rfl, rfl, rfl, rfl, rfl, List.subset_append_left _ _, rfl⟩,
          .inr ⟨_, rfl, by simp only []; omega, rfl⟩⟩
      · cases h
        exact ⟨pad, hpad.1, hpad.2, ⟨rfl, rfl, rfl, rfl, rfl, fun _ hb => hb, rfl⟩, .inl rfl⟩

/-- `pad` of `joinOne`; `w` is the answer of `wantedAlignment` (offset of the aligned node, boundary), `x` the
running address -/
def alignPad (w : Nat × Nat) (x : Nat) : Nat := alignUp (x + w.1) w.2 - (x + w.1)

/-- for any boundary: 0 and 1 demand nothing -/
theorem alignPad_spec (w : Nat × Nat) (x : Nat) :
    alignPad w x < max 1 w.2 ∧ (1 < w.2 → (x + alignPad w x + w.1) % w.2 = 0) := by
  unfold alignPad
  by_cases ha : 1 < w.2
  · have := alignUp_spec (x + w.1) w.2 ha
    refine ⟨by omega, fun _ => ?_⟩
    rw [Nat.add_right_comm, Nat.add_sub_cancel' this.2.1]
    exact this.1
  · rw [alignUp_of_le_one (by omega)]
    exact ⟨by omega, fun h => absurd h ha⟩

/-- the last step of `joinOne`; `pad` is the length of the alignment padding already in `st.dest.contents` -/
def JoinState.append (st : JoinState) (pad : Nat) (iv : Iv) : JoinState :=
  { dest := { st.dest with
      size := st.dest.size + pad + iv.size,
      contents := st.dest.contents ++ iv.contents,
      blocks := st.dest.blocks ++ iv.blocks.map (fun b => { b with off := b.off + st.dest.contents.length }),
      anns := st.dest.anns ++ iv.anns.map (fun a => { a with off := a.off + st.dest.contents.length }) },
    address := st.address + pad + iv.size,
    last := match lastBlock iv.blocks with
      | some b => some { b with off := b.off + st.dest.contents.length }
      | none => st.last,
    nextId := st.nextId }

theorem joinOne_eq (nop : List Nat) (alignB : Nat → Option Nat) (st : JoinState) (iv : Iv) (alignI : Option Nat) :
    joinOne nop alignB st iv alignI =
      insertPadding st nop (st.dest.size - st.dest.contents.length) >>= fun st1 =>
      insertPadding st1 nop (alignPad (wantedAlignment alignB alignI iv) st1.address) >>= fun st2 =>
      .ok (st2.append (alignPad (wantedAlignment alignB alignI iv) st1.address) iv) := rfl

theorem joinOne_plain (nop : List Nat) (st : JoinState) (iv : Iv) (hf : Full st.dest) :
    joinOne nop (fun _ => none) st iv none = .ok (st.append 0 iv) := by
  have h0 : st.dest.size - st.dest.contents.length = 0 := by unfold Full at hf; omega
  have hw : wantedAlignment (fun _ => none) none iv = (0, 1) := by
    unfold wantedAlignment
    rw [List.find?_eq_none.mpr fun b _ => by simp]
    rfl
  have hp (a : Nat) : alignPad (0, 1) a = 0 := by
    rw [alignPad, alignUp_of_le_one (Nat.le_refl 1), Nat.sub_self]
  rw [joinOne_eq, h0, insertPadding_zero]
  simp only [bind, Except.bind, hw, hp, insertPadding_zero]

theorem joinPlain_full {d s : Iv} (hd : Full d) (hs : Full s) : Full (joinPlain d s) := by
  unfold Full joinPlain at *
  simp only [List.length_append]; omega

theorem joinFold_plain (nop : List Nat) : ∀ (rest : List Iv) (st : JoinState), Full st.dest → (∀ s ∈ rest, Full s) →
    ∃ st', joinFold nop (fun _ => none) (rest.map (·, none)) st = .ok st' ∧ st'.dest = rest.foldl joinPlain st.dest := by
  intro rest
  induction rest with
  | nil => intro st _ _; exact ⟨st, rfl, rfl⟩
  | cons s rest ih =>
    intro st hf hall
    -- `(st.append 0 s).dest` is `joinPlain st.dest s` by definition
    obtain ⟨st', h3, h4⟩ := ih (st.append 0 s) (joinPlain_full hf (hall s List.mem_cons_self))
      (fun x hx => hall x (List.mem_cons_of_mem _ hx))
    exact ⟨st', by rw [List.map_cons, joinFold_cons, joinOne_plain nop st s hf]; exact h3, h4⟩

/-- the loop's invariant: the running address is the end of the destination -/
def AddrInv (st : JoinState) : Prop := st.address = st.dest.addr.getD 0 + st.dest.size

theorem joinOne_spec {nop : List Nat} {alignB : Nat → Option Nat} {st st' : JoinState} {iv : Iv} {alignI : Option Nat}
    (h : joinOne nop alignB st iv alignI = .ok st') (hle : st.dest.contents.length ≤ st.dest.size) (hinv : AddrInv st) :
    ∃ fill pad st2, fill.length = st.dest.size - st.dest.contents.length ∧ PadOk st.last nop fill ∧
      PadOk st.last nop pad ∧
      Padded st st2 (fill ++ pad) ∧ st' = st2.append pad.length iv ∧
      st2.dest.contents.length = st.dest.size + pad.length ∧
      pad.length < max 1 (wantedAlignment alignB alignI iv).2 ∧
      (1 < (wantedAlignment alignB alignI iv).2 →
        (st.dest.addr.getD 0 + (st.dest.size + pad.length) + (wantedAlignment alignB alignI iv).1) %
          (wantedAlignment alignB alignI iv).2 = 0) ∧
      AddrInv st' := by
  rw [joinOne_eq] at h
  obtain ⟨st1, h1, h⟩ := Except.bind_eq_ok.mp h
  obtain ⟨st2, h2, h⟩ := Except.bind_eq_ok.mp h
  cases h
  obtain ⟨fill, hfl, hfok, p1, _⟩ := insertPadding_spec h1
  obtain ⟨pad, hpl, hpok, p2, _⟩ := insertPadding_spec h2
  have p := p1.trans p2
  have hlen : st2.dest.contents.length = st.dest.size + pad.length := by
    rw [p.contents, List.length_append, List.length_append, hfl]; omega
  -- the padding is what `alignPad` asks for at the end of the destination
  have hal := alignPad_spec (wantedAlignment alignB alignI iv) st1.address
  rw [← hpl, p1.address, hinv] at hal
  -- the block in front of the padding is of the kind of the one in front of the fill
  unfold PadOk at hpok
  rw [p1.kind] at hpok
  refine ⟨fill, pad, st2, hfl, hfok, hpok, p, by rw [hpl], hlen, hal.1, ?_, ?_⟩
  · rw [← Nat.add_assoc]
    exact hal.2
  · show st2.address + _ + iv.size = st2.dest.addr.getD 0 + (st2.dest.size + _ + iv.size)
    rw [p.address, p.addr, p.size, hinv]
    omega

theorem joinFold_spec (nop : List Nat) (alignB : Nat → Option Nat) : ∀ (rest : List (Iv × Option Nat)) (st st' : JoinState),
    joinFold nop alignB rest st = .ok st' → st.dest.contents.length ≤ st.dest.size → AddrInv st →
    (∀ p ∈ rest, p.1.contents.length ≤ p.1.size) →
    AddrInv st' ∧ st'.dest.contents.length ≤ st'.dest.size ∧ st'.dest.addr = st.dest.addr ∧
    (∃ t, st'.dest.contents = st.dest.contents ++ t) ∧
    (∀ b ∈ st.dest.blocks, b ∈ st'.dest.blocks) ∧
    (∀ p ∈ rest, ∃ base, (∀ b ∈ p.1.blocks, ({ b with off := b.off + base } : Blk) ∈ st'.dest.blocks) ∧
      (∃ u v, st'.dest.contents = u ++ p.1.contents ++ v ∧ u.length = base) ∧
      (1 < (wantedAlignment alignB p.2 p.1).2 →
        (st.dest.addr.getD 0 + base + (wantedAlignment alignB p.2 p.1).1) % (wantedAlignment alignB p.2 p.1).2 = 0)) := by
  intro rest
  induction rest with
  | nil =>
    intro st st' h hle hinv _
    cases h
    exact ⟨hinv, hle, rfl, ⟨[], by simp⟩, fun b hb => hb, fun p hp => by cases hp⟩
  | cons p r ih =>
    intro st st' h hle hinv hall
    rw [joinFold_cons] at h
    obtain ⟨st1, h1, h⟩ := Except.bind_eq_ok.mp h
    obtain ⟨fill, pad, st2, _, _, _, hp, rfl, hlen, _, halign, hinv1⟩ := joinOne_spec h1 hle hinv
    have hc : (st2.append pad.length p.1).dest.contents = st.dest.contents ++ (fill ++ pad) ++ p.1.contents :=
      congrArg (· ++ p.1.contents) hp.contents
    have hle1 : (st2.append pad.length p.1).dest.contents.length ≤ (st2.append pad.length p.1).dest.size := by
      have := hall p List.mem_cons_self
      show (st2.dest.contents ++ p.1.contents).length ≤ st2.dest.size + pad.length + p.1.size
      rw [List.length_append, hlen, hp.size]; omega
    obtain ⟨i1, i2, i3, ⟨t, i4⟩, i5, i6⟩ := ih _ st' h hle1 hinv1 (fun q hq => hall q (List.mem_cons_of_mem _ hq))
    refine ⟨i1, i2, i3.trans hp.addr, ⟨fill ++ pad ++ p.1.contents ++ t, by rw [i4, hc]; simp only [List.append_assoc]⟩,
      fun b hb => i5 b (List.mem_append_left _ (hp.blocks hb)), ?_⟩
    intro q hq
    rcases List.mem_cons.mp hq with rfl | hq
    · refine ⟨st.dest.size + pad.length, fun b hb => i5 _ ?_, ⟨st.dest.contents ++ (fill ++ pad), t, ?_, ?_⟩, halign⟩
      · exact List.mem_append_right _ (List.mem_map.mpr ⟨b, hb, by rw [hlen]⟩)
      · rw [i4, hc]
      · rw [← hp.contents, hlen]
    · obtain ⟨base, j1, j2, j3⟩ := i6 q hq
      exact ⟨base, j1, j2, by rw [← hp.addr]; exact j3⟩

end GtirbVerif.Intervals
