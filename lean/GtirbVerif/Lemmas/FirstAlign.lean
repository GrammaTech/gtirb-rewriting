import GtirbVerif.Lemmas.SortOn
import GtirbVerif.Lemmas.Basics

/-! `firstAlign`: the lowest offset of a piece that carries an alignment request, with the
strictest of the requests made there. -/
namespace GtirbVerif.Listing

theorem firstAlign_none (as : List (Nat × Nat)) : firstAlign as = none ↔ as = [] := by
  unfold firstAlign
  constructor
  · intro h
    cases hs : sortOn (fun a => (a.1, 0)) as with
    | nil =>
      have hp := sortOn_perm (fun a : Nat × Nat => (a.1, 0)) as
      rw [hs] at hp
      exact hp.symm.eq_nil
    | cons x xs => rw [hs] at h; cases h
  · intro h; subst h; rfl

theorem firstAlign_spec (as : List (Nat × Nat)) (o a : Nat) (h : firstAlign as = some (o, a)) :
    (∀ p ∈ as, o ≤ p.1) ∧ (∃ p ∈ as, p.1 = o ∧ p.2 = a) ∧ (∀ p ∈ as, p.1 = o → p.2 ≤ a) := by
  unfold firstAlign at h
  have hperm := sortOn_perm (fun a : Nat × Nat => (a.1, 0)) as
  have hsorted := sortOn_sorted (fun a : Nat × Nat => (a.1, 0)) as
  cases hs : sortOn (fun a => (a.1, 0)) as with
  | nil => rw [hs] at h; cases h
  | cons x rest =>
    rw [hs] at h hperm hsorted
    obtain ⟨o0, a0⟩ := x
    simp only [Option.some.injEq, Prod.mk.injEq] at h
    obtain ⟨rfl, rfl⟩ := h
    have hmem : ∀ p, p ∈ as ↔ p = (o0, a0) ∨ p ∈ rest := fun p => by
      rw [← hperm.mem_iff]; exact List.mem_cons
    have hlow : ∀ p ∈ rest, o0 ≤ p.1 := fun p hp => by
      have := (List.pairwise_cons.mp hsorted).1 p hp
      unfold leBy at this
      simp only at this
      omega
    -- the alignment returned is the maximum of `a0` and the requests made at `o0` behind the head
    have hmax := foldl_max_spec ((rest.filter (fun x => x.1 == o0)).map (·.2)) a0
    refine ⟨fun p hp => ?_, ?_, fun p hp hpo => ?_⟩
    · rcases (hmem p).mp hp with rfl | hp
      · exact Nat.le_refl _
      · exact hlow p hp
    · rcases hmax.2.2 with hm | hm
      · exact ⟨(o0, a0), (hmem _).mpr (.inl rfl), rfl, hm.symm⟩
      · obtain ⟨p, hp, hpa⟩ := List.mem_map.mp hm
        obtain ⟨hpr, hpo⟩ := List.mem_filter.mp hp
        exact ⟨p, (hmem p).mpr (.inr hpr), by simpa using hpo, hpa⟩
    · rcases (hmem p).mp hp with rfl | hp
      · exact hmax.1
      · exact hmax.2.1 _ (List.mem_map.mpr ⟨p, List.mem_filter.mpr ⟨hp, by simpa using hpo⟩, rfl⟩)

end GtirbVerif.Listing
