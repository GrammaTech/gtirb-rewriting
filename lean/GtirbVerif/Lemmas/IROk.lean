import GtirbVerif.Lemmas.IRTables

/-!
# What `split_block`, `join_blocks` and `remove_block` are when they return

Each of the three is a tower of checks around one chain of total steps.  The `_ok` lemmas turn
`op … = .ok r` into the checks that passed and the chain that produced `r`; a fact about the result is
then a walk along the chain with one rewrite per step.
-/
namespace GtirbVerif.IR
open GtirbVerif.Adt (CfgNode Label Edge)

theorem removeStages_true (ir0 : IR) (blk : Block) (t : Bool) (px p n : Option Nat) :
    ir0.removeStages blk t true px p n =
      ((((((ir0.removeSyms blk.id (removeTarget px n p)).removeInEdges blk px n (ir0.isCodeBlockId n)).removeFunctions blk
        (if t then none else n) (if t then false else ir0.isCodeBlockId n)).removeEntrypoints blk
        (if t then none else n) (if t then false else ir0.isCodeBlockId n)).removeOutEdges blk).removeAuxEntries blk).removeCfi
        blk.id (ir0.requiredCfi blk) p n (ir0.isCodeBlockId p) (ir0.isCodeBlockId n) := rfl

theorem removeStages_false (ir0 : IR) (blk : Block) (t : Bool) (px p n : Option Nat) :
    ir0.removeStages blk t false px p n =
      ((ir0.removeOutEdges blk).removeAuxEntries blk).removeCfi
        blk.id (ir0.requiredCfi blk) p n (ir0.isCodeBlockId p) (ir0.isCodeBlockId n) := rfl

theorem removeBlock_ok {ir ir' : IR} {b : Nat} {px r : Bool} {blk : Block}
    (h : ir.removeBlock b px = .ok (ir', r)) (hb : ir.block? b = some blk) :
    ∃ sect, ir.sectionOf blk = some sect ∧
      (ir.withProxy px).canRemove blk px (ir.adjacent blk).1 (ir.adjacent blk).2 ((ir.withProxy px).requiredCfi blk) = r ∧
      ir' = bif r then
          (((ir.withProxy px).removeStages blk px true (if px then some ir.next else none)
            (ir.adjacent blk).1 (ir.adjacent blk).2).orderRemove sect blk.id).setBlock { blk with bi := none }
        else ((ir.withProxy px).removeStages blk px false (if px then some ir.next else none)
            (ir.adjacent blk).1 (ir.adjacent blk).2).keepEmpty blk := by
  unfold IR.removeBlock at h
  rw [hb] at h
  simp only [] at h
  cases hs : ir.sectionOf blk with
  | none => rw [hs] at h; cases h
  | some sect =>
    rw [hs] at h
    refine ⟨sect, rfl, ?_⟩
    cases hc : (ir.withProxy px).canRemove blk px (ir.adjacent blk).1 (ir.adjacent blk).2
        ((ir.withProxy px).requiredCfi blk) with
    | false =>
      simp only [hc, Bool.false_eq_true, if_false] at h
      cases h; exact ⟨rfl, rfl⟩
    | true =>
      simp only [hc, if_true] at h
      cases h; exact ⟨rfl, rfl⟩

theorem splitBlock_ok {ir ir' : IR} {b off nb : Nat} {added : Bool}
    (h : ir.splitBlock b off = .ok (ir', nb, added)) :
    ∃ blk sect, ir.block? b = some blk ∧ off ≤ blk.size ∧ ir.sectionOf blk = some sect ∧ nb = ir.next ∧
      ∃ r : IR × Bool,
        r = (bif blk.isCode then ((ir.splitBlocks blk nb off).splitSyms b nb).splitCode b nb (off == blk.size)
             else ((ir.splitBlocks blk nb off).splitSyms b nb, false)) ∧
        added = r.2 ∧ ir' = (r.1.splitTables b nb off).orderInsertAfter sect b [nb] := by
  unfold IR.splitBlock at h
  cases hb : ir.block? b with
  | none => rw [hb] at h; cases h
  | some blk =>
    rw [hb] at h
    simp only [] at h
    obtain ⟨hoff, h⟩ := passed_guard h nofun
    cases hs : ir.sectionOf blk with
    | none => rw [hs] at h; cases h
    | some sect =>
      rw [hs] at h
      cases h
      refine ⟨blk, sect, rfl, Nat.le_of_not_gt hoff, hs, rfl, _, ?_, rfl, rfl⟩
      cases blk.isCode <;> rfl

theorem joinBlocks_ok {ir ir' : IR} {id1 id2 : Nat} {b1 b2 : Block}
    (h : ir.joinBlocks id1 id2 = .ok ir') (h1 : ir.block? id1 = some b1) (h2 : ir.block? id2 = some b2) :
    ir.notJoinable b1 b2 = none ∧ ∃ sect, ir.sectionOf b2 = some sect ∧
      ir' = (((((bif b2.isCode then (ir.joinSyms b1 id2).joinCode b1 id2 b2.size else ir.joinSyms b1 id2).joinTables
        b1 id2 b2.isCode).setBlock { b1 with size := b1.size + b2.size }).orderRemove sect id2).setBlock
        { b2 with bi := none }) := by
  unfold IR.joinBlocks at h
  rw [h1, h2] at h
  simp only [] at h
  cases hj : ir.notJoinable b1 b2 with
  | some r => rw [hj] at h; cases h
  | none =>
    cases hs : ir.sectionOf b2 with
    | none => rw [hj, hs] at h; cases h
    | some sect =>
      rw [hj, hs] at h
      cases h
      refine ⟨rfl, sect, rfl, ?_⟩
      cases b2.isCode <;> rfl

/-! `joinBlocks_ok` hands out `notJoinable … = none`: the checks of `are_joinable` that passed. -/

theorem layoutJoinable_none {b1 b2 : Block} (h : layoutJoinable b1 b2 = none) :
    b1.bi = b2.bi ∧ b1.bi ≠ none ∧ b1.off + b1.size = b2.off := by
  unfold layoutJoinable at h
  obtain ⟨_, h⟩ := passed_guard h nofun
  obtain ⟨c2, h⟩ := passed_guard h nofun
  obtain ⟨c3, h⟩ := passed_guard h nofun
  obtain ⟨c4, _⟩ := passed_guard h nofun
  exact ⟨by simpa using c2, fun hn => c3 (by rw [hn]; rfl), by simpa using c4⟩

theorem refsTo_any_false {ir : IR} {b : Nat} {p : Sym → Bool} (h : (ir.refsTo b).any p = false) :
    ∀ y ∈ ir.syms, y.ref = .block b → p y = false := by
  intro y hy hr
  have := List.any_eq_false.mp h y (List.mem_filter.mpr ⟨hy, by rw [hr]; exact beq_self_eq_true _⟩)
  simpa using this

theorem notJoinable_none_guards {ir : IR} {b1 b2 : Block} (h : ir.notJoinable b1 b2 = none) :
    layoutJoinable b1 b2 = none ∧ (b1.size = 0 ∨
      ((b2.size != 0 && (ir.refsTo b1.id).any (·.atEnd)) = false ∧
       (alookup b2.id ir.aux.alignment).getD 1 = 1 ∧
       (ir.refsTo b2.id).any (fun s => !s.atEnd) = false ∧
       (b1.isCode = true → ir.codeJoinable b1 b2 = none))) := by
  unfold IR.notJoinable at h
  cases hl : layoutJoinable b1 b2 with
  | some r => rw [hl] at h; cases h
  | none =>
    rw [hl] at h
    simp only [] at h
    refine ⟨rfl, ?_⟩
    by_cases c5 : (b1.size == 0) = true
    · exact Or.inl (by simpa using c5)
    rw [if_neg c5] at h
    obtain ⟨c6, h⟩ := passed_guard h nofun
    obtain ⟨c7, h⟩ := passed_guard h nofun
    obtain ⟨c8, h⟩ := passed_guard h nofun
    refine Or.inr ⟨Bool.eq_false_iff.mpr c6, by simpa using c7, Bool.eq_false_iff.mpr c8, fun hc => ?_⟩
    rw [if_pos hc] at h; exact h

theorem notJoinable_none {ir : IR} {b1 b2 : Block} (h : ir.notJoinable b1 b2 = none) :
    b1.bi = b2.bi ∧ b1.bi ≠ none ∧ b1.off + b1.size = b2.off ∧
    (b1.size = 0 ∨ ∀ y ∈ ir.syms, y.ref = .block b2.id → y.atEnd = true) := by
  obtain ⟨hl, hg⟩ := notJoinable_none_guards h
  obtain ⟨a, b, c⟩ := layoutJoinable_none hl
  refine ⟨a, b, c, hg.imp id (fun ⟨_, _, h8, _⟩ y hy hr => ?_)⟩
  simpa using refsTo_any_false h8 y hy hr

/-- blocks are only joined when no label stands at the end of the first one, unless one of the two is empty:
a label at the end of block1 never ends up behind bytes of block2 -/
theorem notJoinable_none_end {ir : IR} {b1 b2 : Block} (h : ir.notJoinable b1 b2 = none) :
    b1.size = 0 ∨ b2.size = 0 ∨ ∀ y ∈ ir.syms, y.ref = .block b1.id → y.atEnd = false := by
  rcases (notJoinable_none_guards h).2 with h0 | ⟨h6, _⟩
  · exact Or.inl h0
  · by_cases hz : b2.size = 0
    · exact Or.inr (Or.inl hz)
    · have : (ir.refsTo b1.id).any (·.atEnd) = false := by simpa [hz] using h6
      exact Or.inr (Or.inr (refsTo_any_false this))

theorem joinBlocks_blocks {ir ir' : IR} {id1 id2 : Nat} (h : ir.joinBlocks id1 id2 = .ok ir') :
    ∃ b1 b2, ir.block? id1 = some b1 ∧ ir.block? id2 = some b2 := by
  unfold IR.joinBlocks at h
  cases h1 : ir.block? id1 with
  | none => rw [h1] at h; cases h
  | some b1 =>
    cases h2 : ir.block? id2 with
    | none => rw [h1, h2] at h; cases h
    | some b2 => exact ⟨b1, b2, rfl, rfl⟩

theorem removeBlock_block {ir ir' : IR} {b : Nat} {px r : Bool} (h : ir.removeBlock b px = .ok (ir', r)) :
    ∃ blk, ir.block? b = some blk := by
  unfold IR.removeBlock at h
  cases hb : ir.block? b with
  | none => rw [hb] at h; cases h
  | some blk => exact ⟨blk, rfl⟩

end GtirbVerif.IR
