import GtirbVerif.Lemmas.AbiWrap

/-! The generated prologue/epilogue of each ABI family is a nest of transparent wrappers. -/
namespace GtirbVerif.Abi

theorem flatRev_append (a b : List (List Instr)) : flatRev (a ++ b) = flatRev b ++ flatRev a := by
  simp [flatRev]

theorem flatRev_singletons {α} (f : α → Instr) (l : List α) :
    flatRev (l.map (fun r => [f r])) = l.reverse.map f := by
  rw [flatRev, ← List.map_reverse, ← List.flatMap_def, List.map_eq_flatMap]

variable {g : M → Option M} {R : List String} {F : Bool}

/-- an optional wrapper, as the generators write it -/
theorem good_opt {W k : Int} (b : Bool) {p e : List Instr}
    (ht : b = true → Good W (wrap W p e g) R F k) (hf : b = false → Good W g R F k) :
    Good W (wrap W (if b then p else []) (flatRev (if b then [e] else [])) g) R F k := by
  cases b
  · simpa [flatRev, wrap_nil] using hf rfl
  · simpa [flatRev] using ht rfl

/-- the inner code: anything that leaves `sp` where it found it and does not
touch cells at or above its entry `sp` (its own writes, below `sp`, are not
logged) -/
abbrev BodyOK (W : Int) (body : M → Option M) : Prop := Good W body [] false 0

/-- a prologue always runs and lowers `sp` by `d`; additive over `++` (`Lowers.append`) -/
def Lowers (W : Int) (p : List Instr) (d : Int) : Prop :=
  ∀ σ, ∃ σ1, run W p σ = some σ1 ∧ σ1.sp = σ.sp - d

theorem Lowers.nil {W : Int} : Lowers W [] 0 := fun σ => ⟨σ, rfl, by omega⟩

theorem Lowers.append {W : Int} {a b : List Instr} {d e : Int} (ha : Lowers W a d)
    (hb : Lowers W b e) : Lowers W (a ++ b) (d + e) := by
  intro σ
  obtain ⟨σ1, h1, h2⟩ := ha σ
  obtain ⟨σ2, h3, h4⟩ := hb σ1
  exact ⟨σ2, by simp [run_append, h1, h3], by omega⟩

theorem Lowers.ite {W : Int} {p : List Instr} {d : Int} (b : Bool) (h : Lowers W p d) :
    Lowers W (if b then p else []) (if b then d else 0) := by
  cases b
  · exact Lowers.nil
  · exact h

theorem lowers_push (W : Int) (r : String) : Lowers W [.push r] W := fun _ => ⟨_, rfl, rfl⟩

theorem lowers_pushf (W : Int) : Lowers W [.pushf] W := fun _ => ⟨_, rfl, rfl⟩

theorem lowers_lea (W d : Int) : Lowers W [.lea (-d)] d := fun _ => ⟨_, rfl, rfl⟩

/-- red-zone skip, flags, registers, alignment: four wrappers, three of them optional -/
theorem x86_good {W : Nat} (hW : 0 < W) (ax : String) (rz : Nat)
    (c : Constraints) (a : Alloc) (leaf : Bool) {body : M → Option M} (hb : BodyOK W body) :
    Good W (wrap W (x86Gen W ax rz c a leaf).1 (x86Gen W ax rz c a leaf).2.1 body)
      a.clobbered c.clobbersFlags
      (if (!a.clobbered.isEmpty || c.clobbersFlags || c.alignStack) && rz != 0 && leaf then (rz : Int) else 0) := by
  have hWpos : (0 : Int) < W := Int.natCast_pos.mpr hW
  simp only [x86Gen]
  generalize ((!a.clobbered.isEmpty || c.clobbersFlags || c.alignStack) && rz != 0 && leaf) = skip
  -- regroup as a nest
  simp only [flatRev_append, ← List.append_assoc]
  rw [List.append_assoc, List.append_assoc, wrap_append, wrap_append, wrap_append, flatRev_singletons]
  have g4 : Good W _ [] false 0 :=
    good_opt c.alignStack (p := alignPre ax) (e := alignPost ax) (g := body)
      (fun _ => (good_align hWpos hb ax).mono (by simp)) (fun _ => hb)
  have g3 := good_pushes hWpos g4 a.clobbered
  rw [List.append_nil] at g3
  have g2 : Good W _ a.clobbered c.clobbersFlags 0 :=
    good_opt c.clobbersFlags (p := [.pushf]) (e := [.popf])
      (fun _ => (good_pushf hWpos g3).flags fun _ => rfl)
      (fun h => g3.flags (by simp [h]))
  exact good_opt skip (fun h => by simpa [h] using good_lea (rz : Int) (by omega) g2)
    (fun h => by simpa [h] using g2)

theorem lowers_pushes (W : Int) (regs : List String) :
    Lowers W (regs.map Instr.push) (regs.length * W) := by
  induction regs with
  | nil => simpa using Lowers.nil
  | cons r rs ih =>
    rw [List.length_cons, Int.natCast_succ, Int.add_mul, Int.one_mul, Int.add_comm]
    exact (lowers_push W r).append ih

theorem x86_entry {W : Nat} (ax : String) (rz : Nat) (c : Constraints) (a : Alloc) (leaf : Bool)
    (σ : M) :
    ∃ σ1, run W (x86Gen W ax rz c a leaf).1 σ = some σ1 ∧
      (∀ d, (x86Gen W ax rz c a leaf).2.2 = some d → σ1.sp = σ.sp - d) ∧
      (c.alignStack = true → (σ1.sp + W + W) % 16 = 0) := by
  simp only [x86Gen]
  generalize ((!a.clobbered.isEmpty || c.clobbersFlags || c.alignStack) && rz != 0 && leaf) = skip
  obtain ⟨σc, hc1, hc2⟩ := (((lowers_lea W rz).ite skip).append
    (((lowers_pushf W).ite c.clobbersFlags).append (lowers_pushes W a.clobbered))) σ
  rw [← List.append_assoc] at hc1
  by_cases hal : c.alignStack = true
  · simp only [hal, ↓reduceIte]
    obtain ⟨σd, hd, hsp⟩ := align_entry_sp W ax σc
    exact ⟨σd, by rw [run_append, hc1]; exact hd, by simp, fun _ => hsp⟩
  · simp only [hal, Bool.false_eq_true, ↓reduceIte, List.append_nil]
    refine ⟨σc, hc1, ?_, by simp⟩
    intro d h
    simp only [Option.some.injEq] at h
    rw [hc2, ← h]
    push_cast [apply_ite (Nat.cast : Nat → Int)]
    omega

theorem good_pairs (h : Good 8 g R F 0) : ∀ regs : List String,
    Good 8 (wrap 8 (pairPre (pairs regs)) (pairPost (pairs regs)) g) (regs ++ R) F 0
  | [] => by simpa [pairs, pairPre, pairPost, wrap_nil] using h
  | [r] => good_strPre h r
  | r1 :: r2 :: rest => by
    have := good_stp (good_pairs h rest) r1 r2
    rwa [← wrap_append] at this

theorem lowers_pairPre (ps : List (String × Option String)) :
    Lowers 8 (pairPre ps) (16 * ps.length) := by
  induction ps with
  | nil => simpa [pairPre] using Lowers.nil (W := 8)
  | cons p rest ih =>
    -- `stp` and `str` both take 16 bytes
    rw [List.length_cons, show (16 : Int) * (rest.length + 1 : Nat) = 16 + 16 * rest.length by omega]
    obtain ⟨r1, _ | r2⟩ := p
    · exact Lowers.append (a := [.strPre r1]) (fun _ => ⟨_, rfl, rfl⟩) ih
    · exact Lowers.append (a := [.stp r1 r2]) (fun _ => ⟨_, rfl, rfl⟩) ih

theorem arm64FlagsReg_ok {c : Constraints} {a : Alloc} {fr : Option String} {clob : List String}
    (h : arm64FlagsReg c a = .ok (fr, clob)) :
    (∀ x ∈ a.clobbered, x ∈ clob) ∧ fr.isSome = c.clobbersFlags := by
  unfold arm64FlagsReg at h
  cases hf : c.clobbersFlags with
  | false =>
    simp only [hf, Bool.false_eq_true, ↓reduceIte] at h
    cases h
    exact ⟨fun _ hx => hx, rfl⟩
  | true =>
    simp only [hf, ↓reduceIte] at h
    cases hs : a.scratch with
    | cons r _ =>
      rw [hs] at h
      cases h
      exact ⟨fun _ hx => hx, rfl⟩
    | nil =>
      cases hav : a.available with
      | cons r _ =>
        rw [hs, hav] at h
        cases h
        exact ⟨fun _ hx => List.mem_append_left _ hx, rfl⟩
      | nil => simp [hs, hav] at h

theorem arm64Gen_ok {c : Constraints} {a : Alloc} {r : ProEpi} (h : arm64Gen c a = .ok r) :
    ∃ fr clob, (∀ x ∈ a.clobbered, x ∈ clob) ∧ fr.isSome = c.clobbersFlags ∧ r = arm64Emit c fr clob := by
  unfold arm64Gen at h
  split at h
  · cases h
  · rename_i fr clob hfr
    exact ⟨fr, clob, (arm64FlagsReg_ok hfr).1, (arm64FlagsReg_ok hfr).2, by simpa using h.symm⟩

theorem arm64_good (c : Constraints) (a : Alloc) {pre post : List Instr} {adj : Option Nat}
    (hgen : arm64Gen c a = .ok (pre, post, adj)) {body : M → Option M} (hb : BodyOK 8 body) :
    Good 8 (wrap 8 pre post body) a.clobbered c.clobbersFlags 0 := by
  obtain ⟨fr, clob, hsub, hfl, he⟩ := arm64Gen_ok hgen
  simp only [arm64Emit, Prod.mk.injEq] at he
  obtain ⟨rfl, rfl, _⟩ := he
  rw [wrap_append]
  refine (good_pairs ?_ clob).mono fun x hx => List.mem_append_left [] (hsub x hx)
  cases fr with
  | some r => exact ((good_flags_arm hb r).flags fun _ => rfl).mono (by simp)
  | none => rw [wrap_nil]; exact hb.flags fun e => by simp [← hfl] at e

theorem arm64_entry (c : Constraints) (a : Alloc) {pre post : List Instr} {adj : Option Nat}
    (hgen : arm64Gen c a = .ok (pre, post, adj)) (σ : M) :
    ∃ σ1 d, run 8 pre σ = some σ1 ∧ adj = some d ∧ σ1.sp = σ.sp - d ∧
      (σ.sp % 16 = 0 → σ1.sp % 16 = 0) := by
  obtain ⟨fr, clob, _, hfl, he⟩ := arm64Gen_ok hgen
  simp only [arm64Emit, Prod.mk.injEq] at he
  obtain ⟨rfl, _, rfl⟩ := he
  have hfr : Lowers 8 (match (generalizing := false) fr with | some r => [Instr.mrs r, Instr.strPre r] | none => [])
      (if c.clobbersFlags then 16 else 0) := by
    rw [← hfl]
    cases fr
    · exact Lowers.nil
    · exact fun _ => ⟨_, rfl, rfl⟩
  obtain ⟨σ1, h1, h2⟩ := ((lowers_pairPre (pairs clob)).append hfr) σ
  exact ⟨σ1, _, h1, rfl, by rw [h2]; push_cast [apply_ite (Nat.cast : Nat → Int)]; omega,
    fun h16 => by rw [h2]; omega⟩

theorem good_slots (hg : Good 4 g R F 0) (regs : List String) (i : Nat) :
    GoodT 4 (wrap 4 (swList i regs) (lwListRev i regs) g) (regs ++ R) F
      ((4 * i : Nat) : Int) ((4 * (i + regs.length) : Nat) : Int) := by
  induction regs generalizing i with
  | nil => simpa [swList, lwListRev, wrap_nil] using goodT_of_good hg _ _
  | cons r rs ih =>
    have := goodT_sw (by omega : (0 : Int) < 4) (ih (i + 1)) r ((4 * i : Nat) : Int)
      (by omega) (by omega) (by omega)
    rw [← wrap_append] at this
    simpa [swList, lwListRev, Nat.add_assoc, Nat.add_comm 1] using this

theorem mips32Gen_ok {c : Constraints} {a : Alloc} {pre post : List Instr} {adj : Option Nat}
    (h : mips32Gen c a = .ok (pre, post, adj)) :
    let n := a.clobbered.length * 4
    pre = (if n != 0 then [.addiuSp (-(n : Int))] else []) ++ swList 0 a.clobbered ∧
    post = lwListRev 0 a.clobbered ++ (if n != 0 then [.addiuSp (n : Int)] else []) ∧
    adj = some n := by
  unfold mips32Gen at h
  split at h
  · cases h
  · simpa using h.symm

theorem mips32_good (c : Constraints) (a : Alloc) {pre post : List Instr} {adj : Option Nat}
    (hgen : mips32Gen c a = .ok (pre, post, adj)) {body : M → Option M} (hb : BodyOK 4 body) :
    Good 4 (wrap 4 pre post body) a.clobbered false 0 := by
  obtain ⟨rfl, rfl, _⟩ := mips32Gen_ok hgen
  have gs := good_slots hb a.clobbered 0
  rw [wrap_append]
  split
  · have := good_addiu gs ((a.clobbered.length * 4 : Nat) : Int) (by omega) (by omega)
    exact this.mono fun x hx => List.mem_append_left _ hx
  · rename_i hn
    have hnil : a.clobbered = [] := List.eq_nil_of_length_eq_zero (by simp at hn; omega)
    simpa [hnil, swList, lwListRev, wrap_nil] using hb

theorem lowers_swList : ∀ (regs : List String) (i : Nat), Lowers 4 (swList i regs) 0
  | [], _ => Lowers.nil
  | r :: rs, i => by
    have hsw : Lowers 4 [.sw r ((4 * i : Nat) : Int)] 0 := fun σ => ⟨_, rfl, by simp [M.write]⟩
    simpa [swList] using hsw.append (lowers_swList rs (i + 1))

theorem mips32_entry (c : Constraints) (a : Alloc) {pre post : List Instr} {adj : Option Nat}
    (hgen : mips32Gen c a = .ok (pre, post, adj)) (σ : M) :
    ∃ σ1 d, run 4 pre σ = some σ1 ∧ adj = some d ∧ σ1.sp = σ.sp - d := by
  obtain ⟨rfl, _, rfl⟩ := mips32Gen_ok hgen
  have hopen : Lowers 4 [.addiuSp (-((a.clobbered.length * 4 : Nat) : Int))]
      ((a.clobbered.length * 4 : Nat) : Int) := fun _ => ⟨_, rfl, rfl⟩
  obtain ⟨σ1, h1, h2⟩ :=
    ((hopen.ite (a.clobbered.length * 4 != 0)).append (lowers_swList a.clobbered 0)) σ
  refine ⟨σ1, _, h1, rfl, ?_⟩
  rw [h2]
  by_cases hn : a.clobbered.length * 4 = 0 <;> simp [hn]

end GtirbVerif.Abi
