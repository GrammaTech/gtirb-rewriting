import GtirbVerif.Model.IR.Batch

/-!
# Sequential application with a running offset = the plain splice

The heart of C01's bookkeeping: applying sorted, non-overlapping edits one after the other,
each at `offset + total_insert_len`, produces exactly `spliceSpec` — the original bytes with
every patch spliced in at its requested offset and every deleted range removed.
-/
namespace GtirbVerif.Batch
open GtirbVerif.IR GtirbVerif.Listing

theorem spliceBytes_mid (front mid sfx c : List Nat) (k len : Nat) (h : k + len ≤ mid.length) :
    spliceBytes (front ++ mid ++ sfx) (front.length + k) len c =
      front ++ (mid.take k ++ c) ++ mid.drop (k + len) ++ sfx := by
  have ht : (front ++ (mid ++ sfx)).take (front.length + k) = front ++ mid.take k := by
    rw [List.take_append, List.take_of_length_le (Nat.le_add_right ..), Nat.add_sub_cancel_left,
      List.take_append_of_le_length (by omega)]
  have hd : (front ++ (mid ++ sfx)).drop (front.length + (k + len)) = mid.drop (k + len) ++ sfx := by
    rw [List.drop_append, List.drop_eq_nil_of_le (Nat.le_add_right ..), Nat.add_sub_cancel_left,
      List.drop_append_of_le_length h, List.nil_append]
  rw [spliceBytes, List.append_assoc front, ht, Nat.add_assoc, hd]
  simp only [List.append_assoc]

/-- the loop's invariant: `front` is everything in front of the not yet consumed part `bytes.drop cur`
of the block (what precedes the block in its interval, then the block's bytes already produced), and
the running `total` is how far `front` has grown beyond the original position `base + cur` -/
theorem seqSplice_inv (bytes sfx : List Nat) (base : Nat) :
    ∀ (es : List LEdit) (front : List Nat) (cur : Nat) (total : Int), (front.length : Int) = base + cur + total →
      Disjoint bytes.length cur es →
      seqSplice base (front ++ bytes.drop cur ++ sfx) total es = front ++ spliceSpec bytes cur es ++ sfx := by
  intro es
  induction es with
  | nil => intro front cur total _ _; rfl
  | cons e es ih =>
    intro front cur total hf ⟨h1, h2, h3⟩
    have hpos : posOf base total e = front.length + (e.off - cur) := by unfold posOf; omega
    have hk : e.off - cur + e.del ≤ (bytes.drop cur).length := by rw [List.length_drop]; omega
    rw [seqSplice, spliceSpec, hpos, spliceBytes_mid _ _ _ _ _ _ hk, List.drop_drop, ← Nat.add_assoc,
      Nat.add_sub_cancel' h1, ih _ _ _ _ h3]
    · simp only [List.append_assoc]
    · rw [List.length_append, List.length_append, List.length_take_of_le (Nat.le_trans (Nat.le_add_right ..) hk)]; omega

theorem seqSplice_block_in_interval (bytes pfx sfx : List Nat) (es : List LEdit)
    (h : Disjoint bytes.length 0 es) :
    seqSplice pfx.length (pfx ++ bytes ++ sfx) 0 es = pfx ++ spliceSpec bytes 0 es ++ sfx :=
  seqSplice_inv bytes sfx pfx.length es pfx 0 0 (by omega) h

/-- `seqSplice_block_in_interval` for a block given by its place `[off, off + size)` in the bytes of its interval -/
theorem seqSplice_window (bytes : List Nat) (off size : Nat) (es : List LEdit) (hfit : off + size ≤ bytes.length)
    (h : Disjoint size 0 es) :
    seqSplice off bytes 0 es =
      bytes.take off ++ spliceSpec ((bytes.drop off).take size) 0 es ++ bytes.drop (off + size) := by
  have hsplit : bytes = bytes.take off ++ (bytes.drop off).take size ++ bytes.drop (off + size) := by
    rw [List.append_assoc, ← List.drop_drop, List.take_append_drop, List.take_append_drop]
  have hl1 : (bytes.take off).length = off := List.length_take_of_le (Nat.le_trans (Nat.le_add_right ..) hfit)
  have hl2 : ((bytes.drop off).take size).length = size :=
    List.length_take_of_le (by rw [List.length_drop]; exact Nat.le_sub_of_add_le' hfit)
  have := seqSplice_block_in_interval ((bytes.drop off).take size) (bytes.take off) (bytes.drop (off + size)) es
    (by rw [hl2]; exact h)
  rwa [hl1, ← hsplit] at this

/-- **the running-offset loop computes the plain splice** -/
theorem seqSplice_spliceSpec (bytes : List Nat) (es : List LEdit) (h : Disjoint bytes.length 0 es) :
    seqSplice 0 bytes 0 es = spliceSpec bytes 0 es := by
  simpa using seqSplice_block_in_interval bytes [] [] es h

theorem spliceSpec_length (size : Nat) (bytes : List Nat) (hlen : bytes.length = size) :
    ∀ (es : List LEdit) (cur : Nat), cur ≤ size → Disjoint size cur es →
      (spliceSpec bytes cur es).length + cur + (es.map (·.del)).sum = size + (es.map (·.ins.length)).sum := by
  intro es
  induction es with
  | nil => intro cur h _; simp [spliceSpec]; omega
  | cons e es ih =>
    intro cur hcur hd
    obtain ⟨h1, h2, h3⟩ := hd
    have := ih (e.off + e.del) h2 h3
    simp only [spliceSpec, List.length_append, List.length_take, List.length_drop, List.map_cons, List.sum_cons]
    omega

end GtirbVerif.Batch
