import GtirbVerif.Model.Abi.Prologue

/-! `_allocate_patch_registers`: what the scratch and clobber lists contain. -/
namespace GtirbVerif.Abi

theorem removeAll_eq : ∀ (rs avail : List String), avail.Nodup →
    removeAll avail rs = .ok (avail.filter (fun x => !rs.contains x))
  | [], avail, _ => by
    rw [removeAll, List.filter_eq_self.mpr fun _ _ => by simp]
  | r :: rs, avail, hnd => by
    rw [removeAll, removeAll_eq rs _ (hnd.erase r), hnd.erase_eq_filter, List.filter_filter]
    congr 2; funext x
    by_cases e : x = r <;> simp [e, Bool.and_comm]

/-- taking the read registers out of the pool never fails: a read register that is not a scratch
register, or that is also clobbered, is simply not there to be handed out -/
theorem removeAll_err : ∀ (rs avail : List String) (e : GenErr),
    removeAll avail rs = .error e → False
  | [], _, _, h => by simp [removeAll] at h
  | r :: rs, avail, e, h => by
    simp only [removeAll] at h
    exact removeAll_err rs _ e h

theorem getRegister_ok {abi : AbiDesc} {n r : String} :
    abi.getRegister n = .ok r ↔ abi.aliases.lookup n.toLower = some r := by
  unfold AbiDesc.getRegister
  cases abi.aliases.lookup n.toLower <;> simp

theorem getRegister_err {abi : AbiDesc} {n : String} {e : GenErr} (h : abi.getRegister n = .error e) :
    e = .keyError := by
  unfold AbiDesc.getRegister at h
  cases hl : abi.aliases.lookup n.toLower with
  | some r => simp [hl] at h
  | none => simpa [hl] using h.symm

theorem resolveAll_cons (abi : AbiDesc) (n : String) (ns : List String) :
    resolveAll abi (n :: ns) = match abi.getRegister n, resolveAll abi ns with
      | .error e, _ => .error e
      | .ok _, .error e => .error e
      | .ok r, .ok rs => .ok (r :: rs) := by
  simp only [resolveAll, bind, Except.bind]
  cases abi.getRegister n <;> cases resolveAll abi ns <;> rfl

theorem resolveAll_mem {abi : AbiDesc} : ∀ {ns rs : List String}, resolveAll abi ns = .ok rs →
    ∀ r ∈ rs, ∃ n : String, abi.aliases.lookup n.toLower = some r
  | [], _, h, r, hr => by simp only [resolveAll, Except.ok.injEq] at h; subst h; cases hr
  | n :: ns, _, h, r, hr => by
    rw [resolveAll_cons] at h
    split at h <;> cases h
    rename_i hg hrs
    rcases List.mem_cons.mp hr with rfl | hr
    · exact ⟨n, getRegister_ok.mp hg⟩
    · exact resolveAll_mem hrs r hr

theorem resolveAll_err {abi : AbiDesc} : ∀ {ns : List String} {e : GenErr},
    resolveAll abi ns = .error e → e = .keyError
  | [], _, h => by simp [resolveAll] at h
  | n :: ns, _, h => by
    rw [resolveAll_cons] at h
    split at h <;> cases h
    · rename_i hg; exact getRegister_err hg
    · rename_i hrs; exact resolveAll_err hrs

theorem allocate_ok_eq {abi : AbiDesc} {c : Constraints} {a : Alloc} (hsn : abi.scratchRegs.Nodup)
    (h : allocate abi c = .ok a) :
    ∃ clob reads avail, resolveAll abi c.clobbers = .ok clob ∧ resolveAll abi c.reads = .ok reads ∧
      avail = (abi.scratchRegs.filter (fun r => !clob.contains r)).filter (fun r => !reads.contains r) ∧
      c.scratch ≤ avail.length ∧ a = mkAlloc abi c clob avail := by
  unfold allocate at h
  cases hc : resolveAll abi c.clobbers with
  | error e => simp [hc] at h
  | ok clob =>
    cases hr : resolveAll abi c.reads with
    | error e => simp [hc, hr] at h
    | ok reads =>
      simp only [hc, hr, availAfterClobbers, removeAll_eq reads _ (hsn.filter _)] at h
      split at h
      · cases h
      · exact ⟨clob, reads, _, rfl, rfl, rfl, by omega, by simpa using h.symm⟩

theorem mem_mkAlloc_clobbered {abi : AbiDesc} {c : Constraints} {clob avail : List String} {r : String} :
    r ∈ (mkAlloc abi c clob avail).clobbered ↔ r ∈ abi.allRegs ∧
      (r ∈ clob ∨ r ∈ avail.take c.scratch ∨ c.preserveCallerSaved = true ∧ r ∈ abi.callerSaved) := by
  by_cases hp : c.preserveCallerSaved = true <;> simp [mkAlloc, hp]

theorem allocate_ok (abi : AbiDesc) (c : Constraints) (a : Alloc)
    (hsn : abi.scratchRegs.Nodup) (hsub : ∀ r ∈ abi.scratchRegs, r ∈ abi.allRegs)
    (h : allocate abi c = .ok a) :
    ∃ clob reads, resolveAll abi c.clobbers = .ok clob ∧ resolveAll abi c.reads = .ok reads ∧
      a.scratch.length = c.scratch ∧ a.scratch.Nodup ∧
      (∀ r ∈ a.scratch, r ∈ abi.scratchRegs ∧ r ∉ clob ∧ r ∉ reads ∧ r ∈ a.clobbered) ∧
      (∀ r ∈ clob, r ∈ abi.allRegs → r ∈ a.clobbered) ∧
      (c.preserveCallerSaved = true → ∀ r ∈ abi.callerSaved, r ∈ abi.allRegs → r ∈ a.clobbered) ∧
      (∀ r ∈ a.clobbered, r ∈ clob ∨ r ∈ a.scratch ∨
        (c.preserveCallerSaved = true ∧ r ∈ abi.callerSaved)) ∧
      a.clobbered.Sublist abi.allRegs := by
  obtain ⟨clob, reads, avail, hc, hr, hav, hle, rfl⟩ := allocate_ok_eq hsn h
  have hnd : avail.Nodup := hav ▸ (hsn.filter _).filter _
  have hscr : ∀ r ∈ avail.take c.scratch, r ∈ abi.scratchRegs ∧ r ∉ clob ∧ r ∉ reads := by
    intro r hr
    have := List.mem_of_mem_take hr
    simp only [hav, List.mem_filter, Bool.not_eq_true', List.contains_eq_mem, decide_eq_false_iff_not] at this
    exact ⟨this.1.1, this.1.2, this.2⟩
  refine ⟨clob, reads, hc, hr, ?_, hnd.sublist (List.take_sublist _ _), ?_, ?_, ?_, ?_,
    List.filter_sublist⟩
  · simp only [mkAlloc, List.length_take]; omega
  · intro r hr
    obtain ⟨q1, q2, q3⟩ := hscr r hr
    exact ⟨q1, q2, q3, mem_mkAlloc_clobbered.mpr ⟨hsub r q1, .inr (.inl hr)⟩⟩
  · exact fun r hr hall => mem_mkAlloc_clobbered.mpr ⟨hall, .inl hr⟩
  · exact fun hp r hr hall => mem_mkAlloc_clobbered.mpr ⟨hall, .inr (.inr ⟨hp, hr⟩)⟩
  · exact fun r hr => (mem_mkAlloc_clobbered.mp hr).2

end GtirbVerif.Abi
