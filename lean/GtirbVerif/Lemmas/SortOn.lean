import GtirbVerif.Spec.Listing
import GtirbVerif.Lemmas.Sorting

/-! `sortOn` as an instance of `Sorting.sort`. -/
namespace GtirbVerif.Listing

def leBy {α} (key : α → Nat × Nat) (a b : α) : Prop :=
  (key a).1 < (key b).1 ∨ ((key a).1 = (key b).1 ∧ (key a).2 ≤ (key b).2)

variable {α : Type _} (key : α → Nat × Nat)

/-- the test of `insertSorted` -/
def leB (a b : α) : Bool := (key a).1 < (key b).1 || ((key a).1 == (key b).1 && (key a).2 ≤ (key b).2)

theorem leB_iff {a b : α} : leB key a b = true ↔ leBy key a b := by
  simp only [leB, leBy, Bool.or_eq_true, decide_eq_true_eq, Bool.and_eq_true, beq_iff_eq]

theorem sortOn_eq_sort (l : List α) : sortOn key l = Sorting.sort (leB key) l :=
  congrArg (l.foldr · []) (Sorting.insert_unique (leB key) (insertSorted key) (fun _ => rfl) fun _ _ _ => rfl)

theorem sortOn_perm (l : List α) : (sortOn key l).Perm l :=
  sortOn_eq_sort key l ▸ Sorting.sort_perm _ l

theorem sortOn_sorted (l : List α) : (sortOn key l).Pairwise (leBy key) := by
  rw [sortOn_eq_sort]
  refine (Sorting.sort_sorted (le := leB key) (fun a b => ?_) (fun a b c => ?_) l).imp (leB_iff key).mp
  · simp only [Bool.or_eq_true, leB_iff, leBy]; omega
  · simp only [leB_iff, leBy]; omega

/-- sorting depends neither on how the input is listed nor on the keys beyond the order they induce, as long
as that order never ties -/
theorem sortOn_congr (k k' : α → Nat × Nat) {l₁ l₂ : List α} (hp : l₁.Perm l₂)
    (hiso : ∀ a ∈ l₁, ∀ b ∈ l₁, leBy k a b ↔ leBy k' a b)
    (hanti : ∀ a ∈ l₁, ∀ b ∈ l₁, leBy k a b → leBy k b a → a = b) :
    sortOn k l₁ = sortOn k' l₂ := by
  have p1 := sortOn_perm k l₁
  have p2 := (sortOn_perm k' l₂).trans hp.symm
  apply List.Perm.eq_of_pairwise (le := leBy k)
  · intro a b ha hb h1 h2
    exact hanti a (p1.mem_iff.mp ha) b (p2.mem_iff.mp hb) h1 h2
  · exact sortOn_sorted k l₁
  · refine List.Pairwise.imp_of_mem ?_ (sortOn_sorted k' l₂)
    intro a b ha hb h
    exact (hiso a (p2.mem_iff.mp ha) b (p2.mem_iff.mp hb)).mpr h
  · exact p1.trans p2.symm

end GtirbVerif.Listing
