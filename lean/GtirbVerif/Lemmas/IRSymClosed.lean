import GtirbVerif.Lemmas.IRAll

/-!
# No symbol is left on a block that left the module — over whole rewrites

`SInv`: every symbol that refers to a block refers to a block that is attached to a byte interval
of the module, and the block ordering (the cache `adjacent_blocks` answers from) lists only
attached blocks of the right section, each once.  The second half is what makes the first one
an invariant: `remove_block` hands the symbols of a removed block to the neighbour the
ordering names.
-/
namespace GtirbVerif.IR
open GtirbVerif.Adt (CfgNode Label Edge)

theorem splitBlock_order_eq {ir ir' : IR} {b off nb : Nat} {added : Bool} {blk : Block}
    (h : ir.splitBlock b off = .ok (ir', nb, added)) (hb : ir.block? b = some blk) :
    ∃ sect, ir.sectionOf blk = some sect ∧
      ir'.order = aset sect (((alookup sect ir.order).getD []).map (insAfter b [nb])) ir.order := by
  obtain ⟨blk', sect, hb', _, hsect, _, r, hr, _, rfl⟩ := splitBlock_ok h
  rw [hb] at hb'; cases hb'
  have hro : r.1.order = ir.order := hr ▸ splitCodeIf_obs _ order_cfgFree order_funcsFree ..
  refine ⟨sect, hsect, ?_⟩
  unfold IR.orderInsertAfter
  simp only [splitTables_order, hro]

theorem joinBlocks_order_eq {ir ir' : IR} {id1 id2 : Nat} {b1 b2 : Block}
    (h : ir.joinBlocks id1 id2 = .ok ir') (h1 : ir.block? id1 = some b1) (h2 : ir.block? id2 = some b2) :
    ∃ sect, ir.sectionOf b2 = some sect ∧
      ir'.order = aset sect ((((alookup sect ir.order).getD []).map (·.filter (· != id2))).filter (!·.isEmpty)) ir.order := by
  obtain ⟨_, sect, hsect, rfl⟩ := joinBlocks_ok h h1 h2
  refine ⟨sect, hsect, ?_⟩
  rw [setBlock_order]
  unfold IR.orderRemove
  simp only [setBlock_order, joinTables_order, joinCodeIf_obs IR.order order_cfgFree order_funcsFree]
  rfl

theorem removeBlock_order_eq {ir ir' : IR} {b : Nat} {px r : Bool} {blk : Block}
    (h : ir.removeBlock b px = .ok (ir', r)) (hb : ir.block? b = some blk) :
    ∃ sect, ir.sectionOf blk = some sect ∧
      ir'.order = if r then
        aset sect ((((alookup sect ir.order).getD []).map (·.filter (· != b))).filter (!·.isEmpty)) ir.order
      else ir.order := by
  obtain ⟨sect, hsect, _, rfl⟩ := removeBlock_ok h hb
  refine ⟨sect, hsect, ?_⟩
  cases r
  · rw [cond_false, if_neg Bool.false_ne_true, keepEmpty_obs IR.order order_graphFree, setBlock_order, removeStages_order,
      withProxy_order]
  · rw [cond_true, if_pos rfl, setBlock_order]
    unfold IR.orderRemove
    simp only [removeStages_order, withProxy_order, block?_id hb]

/-- block `c` is attached to a byte interval of section `s` -/
def Sec (ir : IR) (c s : Nat) : Prop := ∃ blk, ir.block? c = some blk ∧ ir.sectionOf blk = some s

/-- block `c` is part of the module -/
def Att (ir : IR) (c : Nat) : Prop := ∃ s, Sec ir c s

/-- every symbol that refers to a block refers to one that is part of the module (or to one of
`pend`: blocks of a patch that is being spliced in and whose turn has not come yet) -/
def SymsOk (ir : IR) (pend : List Nat) : Prop :=
  ∀ y ∈ ir.syms, ∀ b, y.ref = .block b → Att ir b ∨ b ∈ pend

/-- the block ordering of a section lists attached blocks of that section, each once per chain -/
def OrdOk (ir : IR) : Prop :=
  ∀ s ch, ch ∈ (alookup s ir.order).getD [] → ch.Nodup ∧ ∀ b ∈ ch, Sec ir b s

def SInv (ir : IR) : Prop := SymsOk ir [] ∧ OrdOk ir

def SecLe (a b : IR) : Prop := ∀ c s, Sec a c s → Sec b c s

def SecLeX (d : Nat) (a b : IR) : Prop := ∀ c s, c ≠ d → Sec a c s → Sec b c s

theorem SecLe.refl (a : IR) : SecLe a a := fun _ _ h => h
theorem SecLe.trans {a b c : IR} (h1 : SecLe a b) (h2 : SecLe b c) : SecLe a c := fun k s h => h2 k s (h1 k s h)
theorem SecLe.x {a b : IR} (d : Nat) (h : SecLe a b) : SecLeX d a b := fun c s _ hc => h c s hc

theorem sec_iff_attSect {ir : IR} {c s : Nat} : Sec ir c s ↔ ir.attSect c = some s := Option.bind_eq_some_iff.symm

theorem Sec.unique {ir : IR} {c s t : Nat} (h1 : Sec ir c s) (h2 : Sec ir c t) : s = t :=
  Option.some.inj ((sec_iff_attSect.mp h1).symm.trans (sec_iff_attSect.mp h2))

theorem Sec.block {ir : IR} {c s : Nat} (h : Sec ir c s) : ir.block? c ≠ none := by
  obtain ⟨b, hb, _⟩ := h; rw [hb]; simp

def IR.sects (ir : IR) (j : Nat) : Option Nat := (ir.interval? j).map (·.sect)

theorem sects_congr {a b : IR} (h : b.intervals = a.intervals) : b.sects = a.sects := by
  unfold IR.sects; rw [interval?_congr h]

theorem sectionOf_of_sects {a b : IR} (h : b.sects = a.sects) (blk : Block) : b.sectionOf blk = a.sectionOf blk := by
  unfold IR.sectionOf
  split
  · rfl
  · exact congrFun h _

theorem Sec.of_sects {ir : IR} {c i s : Nat} {x : Block} (hb : ir.block? c = some x) (hbi : x.bi = some i)
    (hi : ir.sects i = some s) : Sec ir c s := by
  refine ⟨x, hb, ?_⟩
  unfold IR.sectionOf; rw [hbi]; exact hi

theorem sectionOf_bi {ir : IR} {x y : Block} (h : x.bi = y.bi) : ir.sectionOf x = ir.sectionOf y := by
  unfold IR.sectionOf; rw [h]

theorem sectionOf_some_bi {ir : IR} {x : Block} {s : Nat} (h : ir.sectionOf x = some s) : x.bi ≠ none := by
  intro hn; unfold IR.sectionOf at h; rw [hn] at h; cases h

theorem secLe_of_append {a b : IR} (xb : List Block) (xi : List Interval) (hb : b.blocks = a.blocks ++ xb)
    (hi : b.intervals = a.intervals ++ xi) : SecLe a b := by
  intro c s ⟨x, hx, hsx⟩
  refine ⟨x, by rw [block?_append hb, hx]; rfl, ?_⟩
  unfold IR.sectionOf at hsx ⊢
  cases hk : x.bi with
  | none => rw [hk] at hsx; cases hsx
  | some k =>
    rw [hk] at hsx
    obtain ⟨v, hv, hvs⟩ := Option.map_eq_some_iff.mp hsx
    exact Option.map_eq_some_iff.mpr ⟨v, by rw [interval?_append hi, hv]; rfl, hvs⟩

theorem SecLe.of_same {a b : IR} (hb : b.blocks = a.blocks) (hi : b.intervals = a.intervals) : SecLe a b :=
  secLe_of_append [] [] (hb.trans (List.append_nil _).symm) (hi.trans (List.append_nil _).symm)

theorem secLe_of_map {a b : IR} (f : Block → Block) (hid : ∀ x, (f x).id = x.id) (hbi : ∀ x, (f x).bi = x.bi)
    (hb : b.blocks = a.blocks.map f) (hi : b.sects = a.sects) : SecLe a b := by
  intro c s ⟨x, hx, hsx⟩
  refine ⟨f x, by rw [block?_map f hid hb, hx]; rfl, ?_⟩
  rw [sectionOf_of_sects hi, sectionOf_bi (hbi x)]; exact hsx

theorem SecLeX.att {a b : IR} {c d : Nat} (hle : SecLeX d a b) (hc : c ≠ d) (h : Att a c) : Att b c := by
  obtain ⟨s, hs⟩ := h; exact ⟨s, hle c s hc hs⟩

theorem SecLe.att {a b : IR} {c : Nat} (hle : SecLe a b) (h : Att a c) : Att b c := by
  obtain ⟨s, hs⟩ := h; exact ⟨s, hle c s hs⟩

theorem SymsOk.map {a b : IR} {pend : List Nat} (g : Sym → Sym) (hs : b.syms = a.syms.map g)
    (hg : ∀ y ∈ a.syms, ∀ c, (g y).ref = .block c → Att b c ∨ (y.ref = .block c ∧ (Att a c → Att b c)))
    (h : SymsOk a pend) : SymsOk b pend := by
  intro y' hy' c hc
  rw [hs] at hy'
  obtain ⟨y, hy, rfl⟩ := List.mem_map.mp hy'
  rcases hg y hy c hc with hb | ⟨hr, hle⟩
  · exact Or.inl hb
  · exact (h y hy c hr).imp hle id

theorem SymsOk.mono {a b : IR} {pend : List Nat} (hs : b.syms = a.syms) (hle : SecLe a b) (h : SymsOk a pend) :
    SymsOk b pend :=
  h.map id (hs.trans (List.map_id _).symm) fun _ _ _ hc => Or.inr ⟨hc, hle.att⟩

theorem OrdOk.mono {a b : IR} (ho : b.order = a.order) (hle : SecLe a b) (h : OrdOk a) : OrdOk b := by
  intro s ch hch
  rw [ho] at hch
  obtain ⟨hnd, hm⟩ := h s ch hch
  exact ⟨hnd, fun c hc => hle c s (hm c hc)⟩

theorem sinv_mono {a b : IR} {pend : List Nat} (hs : b.syms = a.syms) (ho : b.order = a.order) (hle : SecLe a b)
    (h : SymsOk a pend ∧ OrdOk a) : SymsOk b pend ∧ OrdOk b :=
  ⟨h.1.mono hs hle, h.2.mono ho hle⟩

theorem SInv.mono {a b : IR} (hs : b.syms = a.syms) (ho : b.order = a.order) (hle : SecLe a b) (h : SInv a) : SInv b :=
  sinv_mono hs ho hle h

/-- detaching a block -/
theorem setBlock_secLeX (ir : IR) (nb old : Block) (h : ir.block? nb.id = some old) :
    SecLeX nb.id ir (ir.setBlock nb) := by
  intro c s hc ⟨blk, hblk, hs⟩
  exact ⟨blk, by rw [block?_setBlock_some ir nb old h, if_neg hc]; exact hblk, hs⟩

/-- replacing a block by one in the same byte interval -/
theorem setBlock_secLe (ir : IR) (nb old : Block) (h : ir.block? nb.id = some old) (hbi : nb.bi = old.bi) :
    SecLe ir (ir.setBlock nb) := by
  intro c s hsec
  by_cases hc : c = nb.id
  · obtain ⟨blk, hblk, hs⟩ := hsec
    subst hc
    rw [h] at hblk; cases hblk
    exact ⟨nb, (block?_setBlock_some ir nb old h _).trans (if_pos rfl), (sectionOf_bi hbi).trans hs⟩
  · exact setBlock_secLeX ir nb old h c s hc hsec

theorem insAfter_perm (a : Nat) (bs : List Nat) : ∀ l : List Nat, ∃ k, k.Sublist bs ∧ (insAfter a bs l).Perm (l ++ k)
  | [] => ⟨[], List.nil_sublist _, .refl _⟩
  | y :: ys => by
    unfold insAfter
    split
    · exact ⟨bs, .refl _, List.perm_append_comm.cons y⟩
    · obtain ⟨k, hk, hp⟩ := insAfter_perm a bs ys
      exact ⟨k, hk, hp.cons y⟩

theorem neighbours_go_spec (b : Nat) : ∀ (l : List Nat) (prev p n : Option Nat),
    neighbours.go b prev l = some (p, n) →
      (∀ x, p = some x → prev = some x ∨ (x ∈ l ∧ x ≠ b)) ∧ (∀ y, n = some y → y ∈ l ∧ (l.Nodup → y ≠ b))
  | [], _, _, _, h => by simp [neighbours.go] at h
  | x :: r, prev, p, n, h => by
    unfold neighbours.go at h
    split at h
    · rename_i hx
      cases h
      refine ⟨fun _ hz => Or.inl hz, fun y hy => ?_⟩
      have hyr : y ∈ r := List.mem_of_mem_head? hy
      exact ⟨List.mem_cons_of_mem _ hyr, fun hnd hyb => (List.nodup_cons.mp hnd).1 (by rw [hx, ← hyb]; exact hyr)⟩
    · rename_i hx
      obtain ⟨hp, hn⟩ := neighbours_go_spec b r (some x) p n h
      refine ⟨fun z hz => Or.inr ?_, fun y hy => ?_⟩
      · rcases hp z hz with he | ⟨hzr, hzb⟩
        · cases he; exact ⟨List.mem_cons_self, hx⟩
        · exact ⟨List.mem_cons_of_mem _ hzr, hzb⟩
      · exact ⟨List.mem_cons_of_mem _ (hn y hy).1, fun hnd => (hn y hy).2 (List.nodup_cons.mp hnd).2⟩

/-- the neighbours `adjacent_blocks` names are entries of one chain of the block's section,
different from the block itself (the next one: when the chain lists every block once) -/
theorem adjacent_spec (ir : IR) (blk : Block) (s : Nat) (hs : ir.sectionOf blk = some s) :
    (∀ x, (ir.adjacent blk).1 = some x → ∃ ch, ch ∈ (alookup s ir.order).getD [] ∧ x ∈ ch ∧ x ≠ blk.id) ∧
    (∀ y, (ir.adjacent blk).2 = some y → ∃ ch, ch ∈ (alookup s ir.order).getD [] ∧ y ∈ ch ∧ (ch.Nodup → y ≠ blk.id)) := by
  unfold IR.adjacent
  rw [hs]
  simp only []
  cases hf : ((alookup s ir.order).getD []).findSome? (fun ch => neighbours ch blk.id) with
  | none => exact ⟨fun _ hx => (by cases hx), fun _ hy => (by cases hy)⟩
  | some pn =>
    obtain ⟨ch, hch, hnb⟩ := List.exists_of_findSome?_eq_some hf
    obtain ⟨hp, hn⟩ := neighbours_go_spec blk.id ch none pn.1 pn.2 hnb
    refine ⟨fun x hx => ?_, fun y hy => ⟨ch, hch, hn y hy⟩⟩
    rcases hp x hx with he | hx
    · cases he
    · exact ⟨ch, hch, hx⟩

/-- the three writers of the block ordering replace the chains of one section: the new chains are checked, in the
other sections it is enough that listed blocks stay attached -/
theorem OrdOk.of_aset {a b : IR} {sect : Nat} {chains : List (List Nat)} (hord : b.order = aset sect chains a.order)
    (hnew : ∀ ch ∈ chains, ch.Nodup ∧ ∀ c ∈ ch, Sec b c sect)
    (hold : ∀ s, s ≠ sect → ∀ c, Sec a c s → Sec b c s) (h : OrdOk a) : OrdOk b := by
  intro s ch hch
  rw [hord, getD_alookup_aset] at hch
  split at hch
  · rename_i hss
    exact hss ▸ hnew ch hch
  · rename_i hss
    exact ⟨(h s ch hch).1, fun c hc => hold s hss c ((h s ch hch).2 c hc)⟩

theorem OrdOk.drop {a b : IR} {d sect : Nat}
    (hord : b.order = aset sect ((((alookup sect a.order).getD []).map (·.filter (· != d))).filter (!·.isEmpty)) a.order)
    (hd : Sec a d sect) (hle : SecLeX d a b) (h : OrdOk a) : OrdOk b := by
  refine h.of_aset hord (fun ch hch => ?_) fun s hss c hsec => hle c s (fun he => hss ((he ▸ hsec).unique hd)) hsec
  obtain ⟨ch0, hch0, rfl⟩ := List.mem_map.mp (List.mem_filter.mp hch).1
  obtain ⟨hnd0, hm0⟩ := h sect ch0 hch0
  refine ⟨hnd0.filter _, fun x hx => ?_⟩
  obtain ⟨hx0, hxne⟩ := List.mem_filter.mp hx
  exact hle x sect (by simpa using hxne) (hm0 x hx0)

theorem OrdOk.insAfter {a x : IR} {b sect : Nat} {ns : List Nat}
    (hord : x.order = aset sect (((alookup sect a.order).getD []).map (insAfter b ns)) a.order)
    (hle : SecLe a x) (hnd : ns.Nodup) (hfresh : ∀ c ∈ ns, a.block? c = none) (hnew : ∀ c ∈ ns, Sec x c sect)
    (h : OrdOk a) : OrdOk x := by
  refine h.of_aset hord (fun ch hch => ?_) fun s _ c => hle c s
  obtain ⟨ch0, hch0, rfl⟩ := List.mem_map.mp hch
  obtain ⟨hnd0, hm0⟩ := h sect ch0 hch0
  obtain ⟨k, hk, hp⟩ := insAfter_perm b ns ch0
  refine ⟨hp.nodup_iff.mpr (List.nodup_append.mpr ⟨hnd0, hnd.sublist hk,
    fun c hc d hd he => (hm0 c hc).block (hfresh c (he ▸ hk.subset hd))⟩), fun c hc => ?_⟩
  rcases List.mem_append.mp (hp.mem_iff.mp hc) with hc | hc
  · exact hle c sect (hm0 c hc)
  · exact hnew c (hk.subset hc)

theorem OrdOk.append {a x : IR} {sect : Nat} {ns : List Nat}
    (hord : x.order = if ns.isEmpty then a.order else aset sect ((alookup sect a.order).getD [] ++ [ns]) a.order)
    (hle : SecLe a x) (hnd : ns.Nodup) (hnew : ∀ c ∈ ns, Sec x c sect) (h : OrdOk a) : OrdOk x := by
  by_cases hn : ns.isEmpty = true
  · exact h.mono (hord.trans (if_pos hn)) hle
  · refine h.of_aset (hord.trans (if_neg hn)) (fun ch hch => ?_) fun s _ c => hle c s
    rcases List.mem_append.mp hch with hch | hch
    · exact ⟨(h sect ch hch).1, fun c hc => hle c sect ((h sect ch hch).2 c hc)⟩
    · rw [List.mem_singleton.mp hch]; exact ⟨hnd, hnew⟩

theorem splitBlock_sinv {ir ir' : IR} {b off nb : Nat} {added : Bool} {pend : List Nat}
    (h : ir.splitBlock b off = .ok (ir', nb, added)) (hs : SymsOk ir pend) (ho : OrdOk ir) (hI : IdsBelow ir) :
    SymsOk ir' pend ∧ OrdOk ir' := by
  obtain ⟨blk, _, hb, _⟩ := splitBlock_ok h
  obtain ⟨hnb, _, hsy, hbl⟩ := splitBlock_syms_blocks h hb
  have hiv := splitBlock_intervals h
  obtain ⟨sect, hsect, hord⟩ := splitBlock_order_eq h hb
  have hfresh : ir.block? ir.next = none := hI.fresh (Nat.le_refl _)
  -- the head is written in place, the tail is appended
  have hle : SecLe ir ir' :=
    (setBlock_secLe ir { blk with size := off } blk (by rw [block?_id hb]; exact hb) rfl).trans
      (secLe_of_append (a := ir.setBlock { blk with size := off }) [_] [] hbl (hiv.trans (List.append_nil _).symm))
  -- the tail is in the byte interval of the block that was split
  have hnew : Sec ir' nb sect := by
    refine ⟨_, by rw [splitBlock_block? h hb hfresh, if_neg (fun he => by rw [← hnb, he, hb] at hfresh; cases hfresh), if_pos rfl], ?_⟩
    exact (sectionOf_of_sects (sects_congr hiv) _).trans hsect
  refine ⟨hs.map _ hsy fun y _ c hc => ?_,
    ho.insAfter hord hle (List.nodup_cons.mpr ⟨List.not_mem_nil, List.nodup_nil⟩)
      (fun c hc => by rw [List.mem_singleton.mp hc, hnb]; exact hfresh)
      (fun c hc => by rw [List.mem_singleton.mp hc]; exact hnew)⟩
  unfold splitSym at hc
  split at hc
  · cases hc; exact Or.inl ⟨sect, hnew⟩
  · exact Or.inr ⟨hc, hle.att⟩

theorem joinBlocks_sinv {ir ir' : IR} {id1 id2 : Nat} {pend : List Nat}
    (h : ir.joinBlocks id1 id2 = .ok ir') (hne : id1 ≠ id2) (hs : SymsOk ir pend) (ho : OrdOk ir) :
    SymsOk ir' pend ∧ OrdOk ir' := by
  obtain ⟨b1, b2, h1, h2⟩ := joinBlocks_blocks h
  obtain ⟨hj, hsy, hbl⟩ := joinBlocks_syms_blocks h h1 h2
  obtain ⟨sect, hsect, hord⟩ := joinBlocks_order_eq h h1 h2
  obtain ⟨hbi, _, _, _⟩ := notJoinable_none hj
  have e1 : b1.id = id1 := block?_id h1
  have e2 : b2.id = id2 := block?_id h2
  have hiv := joinBlocks_intervals h
  -- the first block grows in place, the second is detached
  have hle : SecLeX id2 ir ir' := fun c s hc hsec =>
    SecLe.of_same hbl hiv c s
      (setBlock_secLeX _ { b2 with bi := none } b2
        (by rw [block?_setBlock, if_neg (show ¬ b2.id = b1.id by rw [e1, e2]; exact Ne.symm hne), e2]; exact h2) c s
        (e2.symm ▸ hc)
        (setBlock_secLe ir { b1 with size := b1.size + b2.size } b1 (by rw [e1]; exact h1) rfl c s hsec))
  refine ⟨hs.map _ hsy fun y _ c hc => ?_, ho.drop hord ⟨b2, h2, hsect⟩ hle⟩
  unfold joinSym at hc
  by_cases hr : (y.ref == Referent.block id2) = true
  · rw [if_pos hr] at hc
    cases hc
    exact Or.inl ⟨sect, hle _ sect (by rw [e1]; exact hne) ⟨b1, by rw [e1]; exact h1, (sectionOf_bi hbi).trans hsect⟩⟩
  · rw [if_neg hr] at hc
    exact Or.inr ⟨hc, hle.att fun he => hr (by rw [hc, he]; simp)⟩

theorem removeTarget_block {px n p : Option Nat} {c : Nat} (h : (removeTarget px n p).1 = .block c) :
    n = some c ∨ (n = none ∧ p = some c) := by
  unfold removeTarget at h
  split at h <;> cases h
  · exact Or.inl rfl
  · exact Or.inr ⟨rfl, rfl⟩

theorem removeBlock_sinv {ir ir' : IR} {b : Nat} {px r : Bool} {pend : List Nat}
    (h : ir.removeBlock b px = .ok (ir', r)) (hs : SymsOk ir pend) (ho : OrdOk ir) :
    SymsOk ir' pend ∧ OrdOk ir' := by
  obtain ⟨blk, hb⟩ := removeBlock_block h
  have hid : blk.id = b := block?_id hb
  have hiv := removeBlock_intervals h
  have hsame := SecLe.of_same (removeBlock_blocks h hb) hiv
  have hsy := removeBlock_syms h hb
  obtain ⟨sect, hsect, hord⟩ := removeBlock_order_eq h hb
  obtain ⟨hentry, _⟩ := removeBlock_record hb r
  cases r with
  | false =>
    -- the block is emptied in place
    have hle := (setBlock_secLe ir { blk with size := 0 } blk hentry rfl).trans hsame
    exact sinv_mono hsy hord hle ⟨hs, ho⟩
  | true =>
    have hle : SecLeX b ir ir' := fun c s hc hsec =>
      hsame c s (setBlock_secLeX ir { blk with bi := none } blk hentry c s (hid ▸ hc) hsec)
    obtain ⟨hprev, hnext⟩ := adjacent_spec ir blk sect hsect
    refine ⟨hs.map _ hsy fun y _ c hc => ?_, ho.drop hord ⟨blk, hb, hsect⟩ hle⟩
    unfold removeSym at hc
    by_cases hr : (y.ref == Referent.block b) = true
    · -- the symbol stood on the removed block: it goes to the next block of the chain, or else to the one in front
      rw [if_pos hr] at hc
      left
      rcases removeTarget_block hc with hn | ⟨_, hp⟩
      · obtain ⟨ch, hch, hnc, hne⟩ := hnext c hn
        obtain ⟨hnd, hm⟩ := ho sect ch hch
        exact ⟨sect, hle c sect (hid ▸ hne hnd) (hm c hnc)⟩
      · obtain ⟨ch, hch, hpc, hne⟩ := hprev c hp
        exact ⟨sect, hle c sect (hid ▸ hne) ((ho sect ch hch).2 c hpc)⟩
    · rw [if_neg hr] at hc
      exact Or.inr ⟨hc, hle.att fun he => hr (by rw [hc, he]; simp)⟩

theorem editInterval_sects (ir : IR) (i off len : Nat) (c st : List Nat) : (ir.editInterval i off len c st).sects = ir.sects := by
  funext j
  unfold IR.sects
  cases h : ir.interval? i with
  | none => unfold IR.editInterval; rw [h]
  | some iv =>
    rw [editInterval_interval? ir i off len c st iv h]
    by_cases hj : j = i
    · rw [if_pos hj, hj, h]; rfl
    · rw [if_neg hj]

theorem addPatchExprs_sects (ir : IR) (i base : Nat) (ex : List (Nat × SymExpr)) : (ir.addPatchExprs i base ex).sects = ir.sects := by
  funext j
  unfold IR.sects
  rw [addPatchExprs_interval?]
  by_cases hj : j = i
  · rw [if_pos hj, hj, Option.map_map]; rfl
  · rw [if_neg hj]

theorem editInterval_secLe (ir : IR) (i off len : Nat) (c st : List Nat) : SecLe ir (ir.editInterval i off len c st) := by
  obtain ⟨f, hf, hid, hbi, _⟩ := editInterval_map ir i off len c st
  exact secLe_of_map f hid hbi hf (editInterval_sects ..)

theorem connectEmptyTail_secLe (ir : IR) (t : Nat) : SecLe ir (ir.connectEmptyTail t) :=
  SecLe.of_same (core_blocks (connectEmptyTail_core _ _)) (core_intervals (connectEmptyTail_core _ _))

theorem sinv_carried (pend : List Nat) : Carried (fun ir => SymsOk ir pend ∧ OrdOk ir) where
  split h hI hp := splitBlock_sinv h hp.1 hp.2 hI
  join h hne hp := joinBlocks_sinv h hne hp.1 hp.2
  remove h hp := removeBlock_sinv h hp.1 hp.2
  tail t := sinv_mono (core_syms (connectEmptyTail_core _ t)) (connectEmptyTail_order _ t) (connectEmptyTail_secLe _ t)
  edit _ _ _ _ _ := sinv_mono (editInterval_syms ..) (editInterval_order ..) (editInterval_secLe _ _ _ _ _ _)

theorem delete_sinv {ir ir' : IR} {b off len : Nat} {px : Bool} {r : Option Nat} {pend : List Nat}
    (h : ir.delete b off len px = .ok (ir', r)) (hs : SymsOk ir pend) (ho : OrdOk ir) (hI : IdsBelow ir) :
    SymsOk ir' pend ∧ OrdOk ir' :=
  (sinv_carried pend).delete h hI ⟨hs, ho⟩

theorem placePatchBlocks_sec (ir : IR) (tb : List Block) (i base : Nat) {c s : Nat} :
    (c ∉ tb.map (·.id) → Sec ir c s → Sec (ir.placePatchBlocks tb i base) c s) ∧
    (c ∈ tb.map (·.id) → ir.block? c ≠ none → ir.sects i = some s → Sec (ir.placePatchBlocks tb i base) c s) := by
  obtain ⟨g, hg, hid, ho, hp⟩ := placePatchBlocks_map ir tb i base
  have hb := block?_map g hid hg c
  refine ⟨fun hc ⟨x, hx, hsx⟩ => ⟨g x, by rw [hb, hx]; rfl, ?_⟩, fun hc hx hi => ?_⟩
  · rw [ho x (by rw [block?_id hx]; exact hc)]; exact hsx
  · cases hf : ir.block? c with
    | none => exact absurd hf hx
    | some x => exact Sec.of_sects (by rw [hb, hf]; rfl) (hp x (by rw [block?_id hf]; exact hc)) hi

/-! ### `_add_other_section_contents` -/

def osLastEmpty (s : PatchSect) : Bool := (s.blocks.getLast?.map (·.size == 0)).getD false
def osKept (s : PatchSect) : List Block := if osLastEmpty s then s.blocks.dropLast else s.blocks
def osLastId (s : PatchSect) : Nat := (s.blocks.getLast?.map (·.id)).getD 0
def osPrevId (s : PatchSect) : Nat := ((s.blocks.dropLast).getLast?.map (·.id)).getD 0

/-- what the section does to a symbol handed to it: one on the dropped last block moves to the end of the block in front -/
def osRewrite (s : PatchSect) (y : Sym) : Sym :=
  if osLastEmpty s && y.ref == .block (osLastId s) then { y with ref := .block (osPrevId s), atEnd := true } else y

/-- what the loop over the extra sections does to a symbol: it takes the copy the section returned -/
def osUpdate (ns : List Sym) (y : Sym) : Sym := match ns.find? (·.id == y.id) with | some ny => ny | none => y

theorem osRewrite_id (s : PatchSect) (y : Sym) : (osRewrite s y).id = y.id := by unfold osRewrite; split <;> rfl

theorem osUpdate_id (ns : List Sym) (y : Sym) : (osUpdate ns y).id = y.id := by
  unfold osUpdate
  split
  · rename_i ny hf; exact find?_key_eq Sym.id hf
  · rfl

theorem osRewrite_ref {s : PatchSect} {y : Sym} {c : Nat} (h : (osRewrite s y).ref = .block c) :
    (osLastEmpty s = true ∧ y.ref = .block (osLastId s) ∧ c = osPrevId s) ∨
    (y.ref = .block c ∧ (osLastEmpty s = true → c ≠ osLastId s)) := by
  unfold osRewrite at h
  split at h
  · rename_i hr
    rw [Bool.and_eq_true] at hr
    exact Or.inl ⟨hr.1, eq_of_beq hr.2, (Referent.block.inj h).symm⟩
  · rename_i hr
    exact Or.inr ⟨h, fun hle he => hr (by rw [hle, h, he]; exact beq_self_eq_true _)⟩

theorem osUpdate_mem {l : List Sym} {f : Sym → Bool} {r : Sym → Sym} (hid : ∀ z, (r z).id = z.id) {y : Sym} (hy : y ∈ l) :
    (f y = false ∧ osUpdate ((l.filter f).map r) y = y) ∨ ∃ z ∈ l, f z = true ∧ osUpdate ((l.filter f).map r) y = r z := by
  unfold osUpdate
  cases hfind : ((l.filter f).map r).find? (·.id == y.id) with
  | some ny =>
    obtain ⟨z, hz, rfl⟩ := List.mem_map.mp (List.mem_of_find?_eq_some hfind)
    exact Or.inr ⟨z, (List.mem_filter.mp hz).1, (List.mem_filter.mp hz).2, rfl⟩
  | none =>
    refine Or.inl ⟨?_, rfl⟩
    cases hfy : f y with
    | false => rfl
    | true =>
      have := List.find?_eq_none.mp hfind (r y) (List.mem_map_of_mem (List.mem_filter.mpr ⟨hy, hfy⟩))
      rw [hid] at this
      exact absurd (beq_self_eq_true _) this

/-- the blocks of a section the patch brings: the last one, when it is empty, is dropped -/
theorem osKept_cases (s : PatchSect) :
    (osLastEmpty s = false ∧ osKept s = s.blocks) ∨
    (osLastEmpty s = true ∧ ∃ last, osLastId s = last.id ∧
      osKept s = s.blocks.dropLast ∧ s.blocks = s.blocks.dropLast ++ [last]) := by
  cases hle : osLastEmpty s with
  | false => left; exact ⟨rfl, by unfold osKept; rw [hle]; rfl⟩
  | true =>
    right
    refine ⟨rfl, ?_⟩
    cases hl : s.blocks.getLast? with
    | none => unfold osLastEmpty at hle; rw [hl] at hle; simp at hle
    | some last =>
      obtain ⟨ys, hys⟩ := List.getLast?_eq_some_iff.mp hl
      exact ⟨last, by unfold osLastId; rw [hl]; rfl, by unfold osKept; rw [hle]; rfl, by rw [hys, List.dropLast_concat]⟩

theorem osKept_sublist (s : PatchSect) : (osKept s).Sublist s.blocks := by
  unfold osKept
  split
  · exact List.dropLast_sublist _
  · exact List.Sublist.refl _

theorem mem_osKept_ids (s : PatchSect) {c : Nat} (hc : c ∈ s.blocks.map (·.id)) (hne : osLastEmpty s = true → c ≠ osLastId s) :
    c ∈ (osKept s).map (·.id) := by
  rcases osKept_cases s with ⟨_, hk⟩ | ⟨hle, last, hlid, hk, hsplit⟩
  · rw [hk]; exact hc
  · rw [hk]
    rw [hsplit, List.map_append] at hc
    rcases List.mem_append.mp hc with hc | hc
    · exact hc
    · exact absurd ((List.mem_singleton.mp hc).trans hlid.symm) (hne hle)

theorem osPrevId_mem (s : PatchSect) (hle : osLastEmpty s = true) (hlen : s.blocks.length ≠ 1) :
    osPrevId s ∈ (osKept s).map (·.id) := by
  rcases osKept_cases s with ⟨hle0, _⟩ | ⟨_, last, _, hk, hsplit⟩
  · rw [hle0] at hle; cases hle
  · rw [hk]
    unfold osPrevId
    cases hd : s.blocks.dropLast.getLast? with
    | none => exact absurd (by rw [hsplit, List.getLast?_eq_none_iff.mp hd]; rfl) hlen
    | some q => exact List.mem_map.mpr ⟨q, List.mem_of_getLast? hd, rfl⟩

/-- ids of the blocks in the extra sections still to be added -/
def pendOf (l : List (PatchSect × Nat × Nat)) : List Nat := (l.map (fun s => s.1.blocks.map (·.id))).flatten

theorem mem_pendOf_cons {x : PatchSect × Nat × Nat} {xs : List (PatchSect × Nat × Nat)} {c : Nat} :
    c ∈ pendOf (x :: xs) ↔ c ∈ x.1.blocks.map (·.id) ∨ c ∈ pendOf xs := List.mem_append

/-- what holds while the extra sections `l` are still to be added: a symbol stands on an attached block, or it is
one of the patch's and stands on a block still to come (`SymsOk a (pendOf l)`, and whose the pending referents are);
the blocks and byte intervals to come are new -/
structure OthersReady (p : Patch) (a : IR) (l : List (PatchSect × Nat × Nat)) : Prop where
  syms : ∀ y ∈ a.syms, ∀ c, y.ref = .block c → Att a c ∨ (c ∈ pendOf l ∧ p.syms.any (·.id == y.id) = true)
  ord : OrdOk a
  fresh : ∀ c ∈ pendOf l, c ∉ a.ids
  nodup : (pendOf l).Nodup
  ivs : ∀ x ∈ l, a.sects x.2.2 = none
  ivnd : (l.map (·.2.2)).Nodup

/-- **one extra section**: its blocks are attached, the symbols that stood on its dropped empty
last block move to the block in front, and the ordering of its section gains one chain -/
theorem otherStep_ready {i i2 : IR} {p : Patch} {s : PatchSect} {sid bid : Nat} {xs : List (PatchSect × Nat × Nat)}
    {ns : List Sym}
    (hao : i.addOtherSection { p with syms := i.syms.filter (fun y => p.syms.any (·.id == y.id)) } s sid bid = .ok (i2, ns))
    (r : OthersReady p i ((s, sid, bid) :: xs)) (j : IR) (hj : j = { i2 with syms := i2.syms.map (osUpdate ns) }) :
    OthersReady p j xs := by
  obtain ⟨kept, aux1, hk, hi2, _, hns, hsingle⟩ := addOtherSection_ok hao
  have hk : kept = osKept s := hk
  subst hk
  have hns : ns = (i.syms.filter fun y => p.syms.any (·.id == y.id)).map (osRewrite s) := by
    rw [hns]
    show (if osLastEmpty s then _ else _) = _
    unfold osRewrite
    cases osLastEmpty s
    · exact (List.map_id' _).symm
    · rfl
  obtain ⟨hnd1, hnd2, hdis⟩ := List.nodup_append.mp (show (s.blocks.map (·.id) ++ pendOf xs).Nodup from r.nodup)
  obtain ⟨hbnot, hivnd2⟩ := List.nodup_cons.mp r.ivnd
  have hsub : ∀ c ∈ (osKept s).map (·.id), c ∈ s.blocks.map (·.id) := fun c hc => ((osKept_sublist s).map _).subset hc
  -- blocks and one byte interval are appended, the ordering of the section gains one chain
  have jb : j.blocks = i.blocks ++ (osKept s).map (fun b => ({ b with bi := some bid } : Block)) := by
    rw [hj]; show i2.blocks = _; rw [hi2]; exact orderAppend_blocks ..
  obtain ⟨bi, hbid, hbsect, ji⟩ : ∃ bi : Interval, bi.id = bid ∧ bi.sect = sid ∧ j.intervals = i.intervals ++ [bi] :=
    ⟨_, rfl, rfl, by rw [hj]; show i2.intervals = _; rw [hi2]; exact orderAppend_intervals ..⟩
  have js : j.syms = i.syms.map (osUpdate ns) := by
    rw [hj]; show i2.syms.map _ = _; rw [hi2]; exact congrArg _ (orderAppend_obs IR.syms (fun _ _ => rfl) ..)
  have jo : j.order = if ((osKept s).map (·.id)).isEmpty then i.order
      else aset sid ((alookup sid i.order).getD [] ++ [(osKept s).map (·.id)]) i.order := by
    rw [hj]; show i2.order = _; rw [hi2]; unfold IR.orderAppend; rw [List.map_map]; exact apply_ite IR.order ..
  have jids : j.ids = i.ids ++ (osKept s).map (·.id) := by
    unfold IR.ids; rw [jb, List.map_append, List.map_map]; rfl
  have jsec : ∀ k, j.sects k = (i.sects k).or (if bid = k then some sid else none) := fun k => by
    unfold IR.sects
    rw [interval?_append ji]
    cases i.interval? k with
    | some v => rfl
    | none => by_cases hk : bid = k <;> simp [hbid, hbsect, hk]
  have hD : j.sects bid = some sid := by rw [jsec, r.ivs _ List.mem_cons_self, if_pos rfl]; rfl
  have hE : SecLe i j := secLe_of_append _ _ jb ji
  have hF : ∀ c ∈ (osKept s).map (·.id), Sec j c sid := by
    intro c hc
    cases hnb : j.block? c with
    | none => exact absurd hnb ((block?_ne_none_iff j c).mpr (by rw [jids]; exact List.mem_append_right _ hc))
    | some nb =>
      have hm : nb ∈ j.blocks := List.mem_of_find?_eq_some hnb
      rw [jb] at hm
      rcases List.mem_append.mp hm with hm | hm
      · exact absurd (List.mem_map.mpr ⟨nb, hm, block?_id hnb⟩) (r.fresh c (mem_pendOf_cons.mpr (Or.inl (hsub c hc))))
      · obtain ⟨w, _, rfl⟩ := List.mem_map.mp hm
        exact Sec.of_sects hnb rfl hD
  refine ⟨fun y' hy' c hc => ?_, r.ord.append jo hE (hnd1.sublist ((osKept_sublist s).map _)) hF, fun c hc hm => ?_, hnd2,
    fun y hy => ?_, hivnd2⟩
  · rw [js, hns] at hy'
    obtain ⟨y, hy, rfl⟩ := List.mem_map.mp hy'
    rcases osUpdate_mem (osRewrite_id s) hy with ⟨hfy, he⟩ | ⟨z, hz, hfz, he⟩
    · -- none of the patch's: it stood on an attached block
      rw [he] at hc ⊢
      rcases r.syms y hy c hc with ha | ⟨_, hpy⟩
      · exact Or.inl (hE.att ha)
      · rw [hfy] at hpy; cases hpy
    · rw [he] at hc ⊢
      rw [osRewrite_id]
      rcases osRewrite_ref hc with ⟨hle, hzr, rfl⟩ | ⟨hzr, hne⟩
      · -- it stood on the dropped block: now at the end of the block in front, and there is one
        refine Or.inl ⟨sid, hF _ (osPrevId_mem s hle fun hlen => hsingle ?_)⟩
        rw [Bool.and_eq_true, Bool.and_eq_true]
        exact ⟨⟨hle, by rw [hlen]; rfl⟩, List.any_eq_true.mpr ⟨z, List.mem_filter.mpr ⟨hz, hfz⟩, by rw [hzr]; exact beq_self_eq_true _⟩⟩
      · rcases r.syms z hz c hzr with ha | ⟨hpc, _⟩
        · exact Or.inl (hE.att ha)
        · rcases mem_pendOf_cons.mp hpc with hcs | hcx
          · exact Or.inl ⟨sid, hF c (mem_osKept_ids s hcs hne)⟩
          · exact Or.inr ⟨hcx, hfz⟩
  · rw [jids] at hm
    rcases List.mem_append.mp hm with hm | hm
    · exact r.fresh c (mem_pendOf_cons.mpr (Or.inr hc)) hm
    · exact hdis c (hsub c hm) c hc rfl
  · rw [jsec, if_neg (fun he => hbnot (List.mem_map.mpr ⟨y, hy, he.symm⟩)), Option.or_none]
    exact r.ivs y (List.mem_cons_of_mem _ hy)

theorem addOthers_sinv {ir ir' : IR} {p : Patch} (h : ir.addOthers p = .ok ir') (hr : OthersReady p ir p.others) :
    SymsOk ir' [] ∧ OrdOk ir' := by
  have r := addOthers_induct (P := OthersReady p) (fun hao r => otherStep_ready hao r _ rfl) h hr
  exact ⟨fun y hy c hc => (r.syms y hy c hc).imp id fun h => h.1, r.ord⟩

/-- **the objects of a patch are new**: the blocks of all its sections are pairwise different
objects that are no blocks of the module yet (ids below the model's counter), the byte intervals
of its extra sections are new, and the symbols it defines stand on its own blocks -/
structure PatchOk (ir : IR) (p : Patch) : Prop where
  fresh : ∀ c ∈ p.text.blocks.map (·.id) ++ pendOf p.others, ir.block? c = none ∧ c < ir.next
  nodup : (p.text.blocks.map (·.id) ++ pendOf p.others).Nodup
  ivs : ∀ x ∈ p.others, ir.interval? x.2.2 = none
  ivnd : (p.others.map (·.2.2)).Nodup
  syms : ∀ y ∈ p.syms, ∀ b, y.ref = .block b → b ∈ p.text.blocks.map (·.id) ++ pendOf p.others

theorem PatchOk.newBlocks {ir : IR} {p : Patch} (hp : PatchOk ir p) :
    (∀ c ∈ p.text.blocks.map (·.id), ir.block? c = none ∧ c < ir.next) ∧ (p.text.blocks.map (·.id)).Nodup :=
  ⟨fun c hc => hp.fresh c (List.mem_append_left _ hc), (List.nodup_append.mp hp.nodup).1⟩

theorem insertTables_syms (ir ir2 x : IR) (blk : Block) (i sect b off : Nat) (p : Patch) :
    (ir.insertTables ir2 x blk i sect b off p).syms = x.syms ++ p.syms := by
  rw [IR.insertTables, addPatchFunctions_syms, addPatchAux_syms]
  show (IR.addPatchExprs _ _ _ _).syms ++ p.syms = _
  rw [addPatchExprs_syms]

/-- with the patch's tables in and no extra section added yet, a symbol stands on an attached block or is one of
the patch's and waits on the id of a block of an extra section (`OthersReady … p.others`) -/
theorem insertTables_ready {ir ir2 : IR} {p : Patch} {i sect : Nat} (blk : Block) (b off repl endB : Nat) (added : Bool)
    (hp : PatchOk ir p) (hfresh2 : ∀ c ∈ p.text.blocks.map (·.id) ++ pendOf p.others, ir2.block? c = none)
    (hiv2 : ir2.sects = ir.sects) (hisec : ir.sects i = some sect) (s2 : SymsOk ir2 []) (o2 : OrdOk ir2) :
    OthersReady p (ir.insertTables ir2 (ir.insertPlace ir2 blk i b off repl endB added p) blk i sect b off p) p.others := by
  obtain ⟨hTnd, hOnd, hTOdis⟩ := List.nodup_append.mp hp.nodup
  have hfreshT : ∀ c ∈ p.text.blocks.map (·.id), ir2.block? c = none := fun c hc => hfresh2 c (List.mem_append_left _ hc)
  generalize hP : ir.insertPlace ir2 blk i b off repl endB added p = P
  have hPs : P.syms = ir2.syms := by rw [← hP]; exact insertPlace_obs _ (fun _ _ => rfl) (fun _ _ _ _ => rfl) ..
  have hPo : P.order = ir2.order := by rw [← hP]; exact insertPlace_obs _ (fun _ _ => rfl) (fun _ _ _ _ => rfl) ..
  have hPids : P.ids = ir2.ids ++ p.text.blocks.map (·.id) := hP ▸ insertPlace_ids ..
  -- the placement: stitch, byte edit, the patch's blocks attached to the interval
  obtain ⟨hPle, hPnew, hPsects⟩ :
      SecLe ir2 P ∧ (∀ c ∈ p.text.blocks.map (·.id), Sec P c sect) ∧ P.sects = ir2.sects := by
    have hEids := hPids
    rw [← hP, IR.insertPlace] at hEids ⊢
    rw [placePatchBlocks_ids] at hEids
    have hRb := addReturnEdgesForPatchCalls_blocks ir2 (ir.patchCfg blk b p).1
    have hRi := addReturnEdgesForPatchCalls_intervals ir2 (ir.patchCfg blk b p).1
    generalize (ir2.addReturnEdgesForPatchCalls (ir.patchCfg blk b p).1).1 = R at hRb hRi hEids ⊢
    have hSb := insertStitch_blocks R p.text.blocks b endB added
    have hSi : (R.insertStitch p.text.blocks b endB added).intervals = R.intervals := insertStitch_intervals ..
    generalize R.insertStitch p.text.blocks b endB added = S at hSb hSi hEids ⊢
    have hEs : (S.editInterval i (blk.off + off) repl p.text.data [b]).sects = ir2.sects :=
      (editInterval_sects ..).trans ((sects_congr hSi).trans (sects_congr hRi))
    have hle : SecLe ir2 (S.editInterval i (blk.off + off) repl p.text.data [b]) :=
      ((SecLe.of_same hRb hRi).trans (secLe_of_append _ [] hSb (hSi.trans (List.append_nil _).symm))).trans (editInterval_secLe _ _ _ _ _ _)
    generalize S.editInterval i (blk.off + off) repl p.text.data [b] = E at hEids hEs hle
    exact ⟨fun c s hsec => (placePatchBlocks_sec ..).1 (fun hm => hsec.block (hfreshT c hm)) (hle c s hsec),
      fun c hc => (placePatchBlocks_sec ..).2 hc
        ((block?_ne_none_iff E c).mpr (by rw [hEids]; exact List.mem_append_right _ hc)) (hEs ▸ hiv2 ▸ hisec), hEs⟩
  obtain ⟨hXb, _⟩ := insertTables_table ir ir2 P blk i sect b off p
  -- the tables: the block table stays, the intervals keep their sections, symbols and ordering gain the patch's
  generalize hX : ir.insertTables ir2 P blk i sect b off p = X at hXb ⊢
  have hXsects : X.sects = ir2.sects := by
    rw [← hX, IR.insertTables]
    exact (sects_congr (by rw [addPatchFunctions_intervals]; rfl)).trans ((addPatchExprs_sects ..).trans hPsects)
  have hXle : SecLe P X :=
    secLe_of_map id (fun _ => rfl) (fun _ => rfl) (hXb.trans (List.map_id _).symm) (hXsects.trans hPsects.symm)
  have hT : ∀ c ∈ p.text.blocks.map (·.id), Sec X c sect := fun c hc => hXle c sect (hPnew c hc)
  have hXs : X.syms = ir2.syms ++ p.syms := by rw [← hX, insertTables_syms, hPs]
  have hXo : X.order = aset sect (((alookup sect ir2.order).getD []).map (insAfter b (p.text.blocks.map (·.id)))) ir2.order := by
    rw [← hX, IR.insertTables, addPatchFunctions_order, addPatchAux_order, addPatchNodes_order]
    unfold IR.orderInsertAfter
    simp only [addPatchExprs_order, hPo]
  refine ⟨fun y hy c hc => ?_, o2.insAfter hXo (hPle.trans hXle) hTnd hfreshT hT, fun c hc hm => ?_, hOnd, fun x hx => ?_, hp.ivnd⟩
  · rw [hXs] at hy
    rcases List.mem_append.mp hy with hy | hy
    · exact (s2 y hy c hc).imp (hPle.trans hXle).att (fun hpe => by cases hpe)
    · exact (List.mem_append.mp (hp.syms y hy c hc)).imp (fun hm => ⟨sect, hT c hm⟩)
        (fun hm => ⟨hm, List.any_eq_true.mpr ⟨y, hy, beq_self_eq_true _⟩⟩)
  · rw [ids_of_blocks hXb, hPids] at hm
    rcases List.mem_append.mp hm with hm | hm
    · exact (block?_none_iff ir2 c).mp (hfresh2 c (List.mem_append_right _ hc)) hm
    · exact hTOdis c hm c hc rfl
  · rw [hXsects, hiv2]
    unfold IR.sects; rw [hp.ivs x hx]; rfl

/-- **`insert` keeps every symbol on a block of the module** -/
theorem insert_sinv {ir ir' : IR} {b off repl last : Nat} {p : Patch}
    (h : ir.insert b off repl p = .ok (ir', last)) (hs : SymsOk ir []) (ho : OrdOk ir) (hI : IdsBelow ir)
    (hp : PatchOk ir p) : SymsOk ir' [] ∧ OrdOk ir' := by
  obtain ⟨blk, i, sect, ir2, endB, added, ir12, hb, hbi, hsect, hsp, hoth, hcl⟩ := insert_ok h
  obtain ⟨s2, o2⟩ := (sinv_carried []).insertSplit hsp hI ⟨hs, ho⟩
  obtain ⟨_, _, ⟨e, he, _⟩, _⟩ := insertSplit_table hsp ⟨blk, hb, Or.inl hbi⟩ hI
  have v12 : SInv ir12 := addOthers_sinv hoth (insertTables_ready blk b off repl endB added hp
    (fun c hc => insertSplit_fresh hsp (hp.fresh c hc).1 (hp.fresh c hc).2) (sects_congr (insertSplit_intervals hsp))
    (by unfold IR.sectionOf at hsect; rw [hbi] at hsect; exact hsect) s2 o2)
  exact (sinv_carried []).cleanup (ir := ir12.bumpNext p) hcl
    (insert_cleanup_nodup hsp hI (by rw [hb]; simp) (by rw [he]; simp) hp.newBlocks.2 hp.newBlocks.1)
    (v12.mono rfl rfl (SecLe.of_same rfl rfl))

theorem loopInsert_sinv {ir ir' : IR} {func : Option Nat} {ab : Block} {a ao repl last : Nat} {p : Patch}
    (h : ir.loopInsert func ab a ao repl p = .ok (ir', last)) (hs : SymsOk ir []) (ho : OrdOk ir) (hI : IdsBelow ir)
    (hp : PatchOk ir p) : SymsOk ir' [] ∧ OrdOk ir' := by
  obtain ⟨ir1, hins, h'⟩ := loopInsert_ok h
  have v1 : SInv ir1 := insert_sinv hins hs ho hI hp
  rcases h' with rfl | ⟨f, rfl⟩
  · exact v1
  · obtain ⟨hb, hi, _⟩ := adoptPatchBlocks_same ir1 p f
    exact v1.mono (adoptPatchBlocks_syms _ _ _) (adoptPatchBlocks_order _ _ _) (SecLe.of_same hb hi)

/-- **the objects of every patch are new when the patch is inserted** (see `PatchOk`), along the
loop over the requests of a block -/
def NewPatches (origOff : Nat) (func : Option Nat) : IR → Option Nat → Int → List Mod → Prop
  | _, _, _, [] => True
  | _, none, _, _ :: _ => True
  | ir, some a, total, m :: ms =>
    match ir.block? a with
    | none => True
    | some ab =>
      match m with
      | .ins o repl p =>
        PatchOk ir p ∧
        ∀ ir' last, ir.loopInsert func ab a (actualOffset origOff ab total o).toNat repl p = .ok (ir', last) →
          NewPatches origOff func ir' (some last) (total + (p.text.data.length : Int) - (repl : Int)) ms
      | .del o len px =>
        ∀ ir' r, ir.delete a (actualOffset origOff ab total o).toNat len px = .ok (ir', r) →
          NewPatches origOff func ir' r (total - (len : Int)) ms

theorem NewPatches.ins {origOff : Nat} {func : Option Nat} {ir : IR} {a : Nat} {ab : Block} {total : Int} {o repl : Nat}
    {p : Patch} {ms : List Mod} (hab : ir.block? a = some ab)
    (h : NewPatches origOff func ir (some a) total (.ins o repl p :: ms)) :
    PatchOk ir p ∧ ∀ ir' last, ir.loopInsert func ab a (actualOffset origOff ab total o).toNat repl p = .ok (ir', last) →
      NewPatches origOff func ir' (some last) (total + (p.text.data.length : Int) - (repl : Int)) ms := by
  unfold NewPatches at h; rw [hab] at h; exact h

theorem NewPatches.del {origOff : Nat} {func : Option Nat} {ir : IR} {a : Nat} {ab : Block} {total : Int} {o len : Nat}
    {px : Bool} {ms : List Mod} (hab : ir.block? a = some ab)
    (h : NewPatches origOff func ir (some a) total (.del o len px :: ms)) :
    ∀ ir' r, ir.delete a (actualOffset origOff ab total o).toNat len px = .ok (ir', r) →
      NewPatches origOff func ir' r (total - (len : Int)) ms := by
  unfold NewPatches at h; rw [hab] at h; exact h

theorem NewPatches.newBlocks (origOff : Nat) (func : Option Nat) : ∀ (ms : List Mod) (ir : IR) (actual : Option Nat) (total : Int),
    NewPatches origOff func ir actual total ms → NewBlocks origOff func ir actual total ms := by
  intro ms
  induction ms with
  | nil => intro ir actual total _; unfold NewBlocks; trivial
  | cons m ms ih =>
    intro ir actual total h
    cases actual with
    | none => unfold NewBlocks; trivial
    | some a =>
      cases hab : ir.block? a with
      | none => unfold NewBlocks; rw [hab]; trivial
      | some ab =>
        unfold NewBlocks
        rw [hab]
        cases m with
        | ins o repl p =>
          obtain ⟨hp, hnext⟩ := h.ins hab
          exact ⟨hp.newBlocks.1, hp.newBlocks.2, fun ir' last hl => ih ir' (some last) _ (hnext ir' last hl)⟩
        | del o len px => exact fun ir' r hd => ih ir' r _ (h.del hab ir' r hd)

/-- **no symbol is left on a block that left the module, through the whole loop over the requests
of a block** -/
theorem applyMods_sinv (origOff i : Nat) (func : Option Nat) : ∀ (ms : List Mod) (ir ir' : IR) (actual : Option Nat)
    (total : Int),
    IR.applyMods origOff func ir actual total ms = .ok ir' →
    (∀ a, actual = some a → In i ir a) → IdsBelow ir → NewPatches origOff func ir actual total ms →
    SymsOk ir [] → OrdOk ir → SymsOk ir' [] ∧ OrdOk ir' := by
  intro ms
  induction ms with
  | nil =>
    intro ir ir' actual total h _ _ _ hs ho
    unfold IR.applyMods at h
    injection h with h; subst h
    exact ⟨hs, ho⟩
  | cons m ms ih =>
    intro ir ir' actual total h hact hI hnew hs ho
    obtain ⟨a, ab, rfl, hab, _, hstep⟩ := applyMods_cons_ok h
    have hin := hact a rfl
    rcases hstep with ⟨o, repl, p, ir1, last, rfl, hl, h⟩ | ⟨o, len, px, ir1, r, rfl, hd, h⟩
    · obtain ⟨hp, hnext⟩ := hnew.ins hab
      obtain ⟨hI1, hin1, _⟩ := loopInsert_table hl hin hI hp.newBlocks.1
      obtain ⟨s1, o1⟩ := loopInsert_sinv hl hs ho hI hp
      exact ih ir1 ir' (some last) _ h (fun a' ha' => by injection ha' with ha'; subst ha'; exact hin1) hI1
        (hnext ir1 last hl) s1 o1
    · obtain ⟨hI1, hin1, _⟩ := delete_table hd hin hI
      obtain ⟨s1, o1⟩ := delete_sinv hd hs ho hI
      exact ih ir1 ir' r _ h hin1 hI1 (hnew.del hab ir1 r hd) s1 o1

/-- the patches of all request lists consist of new objects when they are inserted -/
def NewPatchesAll : IR → List BlockMods → Prop
  | _, [] => True
  | ir, r :: rest =>
    match ir.block? r.block with
    | none => True
    | some blk =>
      NewPatches blk.off r.func ir (some r.block) 0 r.mods ∧
      ∀ ir', ir.applyMods blk.off r.func (some r.block) 0 r.mods = .ok ir' → NewPatchesAll ir' rest

theorem NewPatchesAll.cons {ir : IR} {r : BlockMods} {rest : List BlockMods} {blk : Block} (hb : ir.block? r.block = some blk)
    (h : NewPatchesAll ir (r :: rest)) :
    NewPatches blk.off r.func ir (some r.block) 0 r.mods ∧
    ∀ ir', ir.applyMods blk.off r.func (some r.block) 0 r.mods = .ok ir' → NewPatchesAll ir' rest := by
  unfold NewPatchesAll at h; rw [hb] at h; exact h

/-- **no symbol is left on a block that left the module, through `apply()`'s whole loop over the
blocks** -/
theorem applyAll_sinv : ∀ (rs : List BlockMods) (ir ir' : IR),
    ir.applyAll rs = .ok ir' → IdsBelow ir → (∀ r ∈ rs, ReqOk ir r) → (rs.map (ivOf ir)).Nodup → NewPatchesAll ir rs →
    SymsOk ir [] → OrdOk ir → SymsOk ir' [] ∧ OrdOk ir' := by
  intro rs
  induction rs with
  | nil =>
    intro ir ir' h _ _ _ _ hs ho
    unfold IR.applyAll at h
    injection h with h; subst h; exact ⟨hs, ho⟩
  | cons r rest ih =>
    intro ir ir' h hI hok hnd hnew hs ho
    obtain ⟨blk, ir1, hb, hmod, h⟩ := applyAll_cons_ok h
    obtain ⟨hn1, hn2⟩ := hnew.cons hb
    obtain ⟨hI1, hok1, hnd1⟩ := applyAll_step hb hmod hI hok hnd (NewPatches.newBlocks _ _ _ _ _ _ hn1)
    obtain ⟨i, _, hact⟩ := (hok r List.mem_cons_self).start hb
    obtain ⟨s1, o1⟩ := applyMods_sinv blk.off i r.func r.mods ir ir1 (some r.block) 0 hmod hact hI hn1 hs ho
    exact ih ir1 ir' h hI1 hok1 hnd1 (hn2 ir1 hmod) s1 o1

theorem symsOkB_sound {ir : IR} (h : ir.symsOkB = true) : SymsOk ir [] := by
  intro y hy b hb
  unfold IR.symsOkB at h
  have := List.all_eq_true.mp h y hy
  rw [hb] at this
  obtain ⟨s, hs⟩ := Option.isSome_iff_exists.mp this
  exact Or.inl ⟨s, sec_iff_attSect.mpr hs⟩

theorem ordOkB_sound {ir : IR} (h : ir.ordOkB = true) : OrdOk ir := by
  intro s ch hch
  cases hl : alookup s ir.order with
  | none => rw [hl] at hch; cases hch
  | some chains =>
    rw [hl] at hch
    have h2 := List.all_eq_true.mp (List.all_eq_true.mp h (s, chains) (alookup_mem s chains ir.order hl)) ch hch
    simp only [Bool.and_eq_true, decide_eq_true_eq, List.all_eq_true, beq_iff_eq] at h2
    exact ⟨h2.1, fun b hb => sec_iff_attSect.mpr (h2.2 b hb)⟩

theorem sinvB_sound {ir : IR} (h1 : ir.symsOkB = true) (h2 : ir.ordOkB = true) : SInv ir :=
  ⟨symsOkB_sound h1, ordOkB_sound h2⟩

theorem otherIds_eq (p : Patch) : p.otherIds = pendOf p.others := rfl

theorem patchOkB_sound {ir : IR} {p : Patch} (h : ir.patchOkB p = true) : PatchOk ir p := by
  unfold IR.patchOkB at h
  simp only [Bool.and_eq_true, otherIds_eq] at h
  obtain ⟨⟨⟨⟨h1, h2⟩, h3⟩, h4⟩, h5⟩ := h
  refine ⟨?_, of_decide_eq_true h2, ?_, of_decide_eq_true h4, ?_⟩
  · intro c hc
    have := List.all_eq_true.mp h1 c hc
    simp only [Bool.and_eq_true, decide_eq_true_eq, Option.isNone_iff_eq_none] at this
    exact this
  · intro x hx
    have := List.all_eq_true.mp h3 x hx
    simpa using this
  · intro y hy b hb
    have := List.all_eq_true.mp h5 y hy
    rw [hb] at this
    exact List.contains_iff_mem.mp this

end GtirbVerif.IR
