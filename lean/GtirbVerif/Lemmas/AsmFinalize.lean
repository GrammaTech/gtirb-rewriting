import GtirbVerif.Lemmas.AsmTiling
/-!
`Assembler.finalize` keeps every section tiled and leaves an empty block at most at the end.
-/
namespace GtirbVerif.Asm

theorem groupByOff_cons (b : ABlock) (bs : List ABlock) :
    (∃ c cs gs, groupByOff bs = (c :: cs) :: gs ∧ c.off = b.off ∧ groupByOff (b :: bs) = (b :: c :: cs) :: gs) ∨
    (groupByOff (b :: bs) = [b] :: groupByOff bs ∧ ∀ c cs gs, groupByOff bs = (c :: cs) :: gs → c.off ≠ b.off) := by
  simp only [groupByOff]
  split
  · rename_i c cs gs hg
    by_cases ho : c.off = b.off
    · exact .inl ⟨c, cs, gs, hg, ho, by simp [ho]⟩
    · exact .inr ⟨by simp [ho, hg], fun c' cs' gs' h => by rw [hg] at h; cases h; exact ho⟩
  · rename_i hn
    exact .inr ⟨rfl, fun c cs gs h => absurd h (hn c cs gs)⟩

/-- the blocks `_remove_empty_blocks` keeps: the last of every group -/
def mains (gs : List (List ABlock)) : List ABlock := gs.filterMap List.getLast?

theorem mains_cons (g : List ABlock) (gs : List (List ABlock)) : mains (g :: gs) = g.getLast?.toList ++ mains gs := by
  simp only [mains, List.filterMap_cons]
  cases g.getLast? <;> rfl

def OffsDiffer : List ABlock → Prop
  | a :: b :: rest => a.off ≠ b.off ∧ OffsDiffer (b :: rest)
  | _ => True

/-- The first two conjuncts are what the induction carries. -/
theorem mains_offsDiffer (l : List ABlock) :
    [] ∉ groupByOff l ∧
    (∀ c cs gs, groupByOff l = (c :: cs) :: gs → ((c :: cs).getLast (by simp)).off = c.off) ∧
    OffsDiffer (mains (groupByOff l)) := by
  induction l with
  | nil => simp [groupByOff, mains, OffsDiffer]
  | cons b bs ih =>
    obtain ⟨hne, hlast, hd⟩ := ih
    rcases groupByOff_cons b bs with ⟨c, cs, gs, hg, ho, hb⟩ | ⟨hb, hc⟩
    · rw [hg] at hne hlast hd
      rw [hb]
      refine ⟨by simpa using hne, fun c' cs' gs' h => ?_, by simpa only [mains_cons, List.getLast?_cons_cons] using hd⟩
      cases h
      rw [List.getLast_cons (by simp), hlast c cs gs rfl, ho]
    · rw [hb]
      refine ⟨by simpa using hne, fun c' cs' gs' h => by cases h; rfl, ?_⟩
      cases hgb : groupByOff bs with
      | nil => simp [mains, OffsDiffer]
      | cons g gs =>
        cases g with
        | nil => exact absurd (hgb ▸ List.mem_cons_self) hne
        | cons c cs =>
          rw [hgb] at hd
          simp only [mains_cons, List.getLast?_singleton, List.getLast?_eq_some_getLast (List.cons_ne_nil c cs),
            Option.toList_some, List.singleton_append] at hd ⊢
          exact ⟨fun h => hc c cs gs hgb (by rw [← hlast c cs gs hgb, h]), hd⟩

theorem tiles_mains {l : List ABlock} {p e : Nat} (hz : ∀ g ∈ groupByOff l, ∀ x ∈ g.dropLast, x.size = 0)
    (h : tiles p l = some e) : tiles p (mains (groupByOff l)) = some e := by
  induction l generalizing p with
  | nil => simpa [groupByOff, mains] using h
  | cons b bs ih =>
    obtain ⟨hp, h⟩ := tiles_cons.1 h
    rcases groupByOff_cons b bs with ⟨c, cs, gs, hg, _, hb⟩ | ⟨hb, _⟩
    · rw [hb] at hz ⊢
      have hzb : b.size = 0 := hz _ List.mem_cons_self b (by simp [List.dropLast])
      rw [hzb] at h
      have := ih (p := p) (fun g hgm x hx => ?_) h
      · simpa only [hg, mains_cons, List.getLast?_cons_cons] using this
      · rw [hg] at hgm
        rcases List.mem_cons.1 hgm with rfl | hgm
        · exact hz _ List.mem_cons_self x (by simp [List.dropLast, hx])
        · exact hz g (List.mem_cons_of_mem _ hgm) x hx
    · rw [hb] at hz ⊢
      simp only [mains_cons, List.getLast?_singleton, Option.toList_some, List.singleton_append]
      exact tiles_cons.2 ⟨hp, ih (fun g hgm => hz g (List.mem_cons_of_mem _ hgm)) h⟩

theorem mergeExtra_ok {st st' : AState} {ids : List Nat} {main e : ABlock} (h : mergeExtra st ids main e = .ok st') :
    e.size = 0 ∧ st'.sects = st.sects := by
  unfold mergeExtra at h
  split at h
  · cases h
  · rename_i hs
    simp only [] at h
    split at h
    · cases h
    · cases h
      exact ⟨by simpa using hs, rfl⟩

theorem mergeExtras_ok {es : List ABlock} {st st' : AState} {ids : List Nat} {main : ABlock}
    (h : mergeExtras st ids main es = .ok st') : (∀ e ∈ es, e.size = 0) ∧ st'.sects = st.sects := by
  induction es generalizing st with
  | nil => cases h; simp
  | cons e es ih =>
    simp only [mergeExtras] at h
    split at h
    · cases h
    · rename_i st1 h1
      obtain ⟨hz1, hs1⟩ := mergeExtra_ok h1
      obtain ⟨hz2, hs2⟩ := ih h
      exact ⟨fun x hx => (List.mem_cons.1 hx).elim (fun hxe => hxe ▸ hz1) (hz2 x), hs2.trans hs1⟩

theorem mergeGroup_ok {lastId : Nat} {st st' : AState} {s s' : ASect} {g : List ABlock}
    (h : mergeGroup lastId st s g = .ok (st', s')) :
    s'.blocks = s.blocks ++ g.getLast?.toList ∧ s'.dataLen = s.dataLen ∧ s'.name = s.name ∧
    (∀ e ∈ g.dropLast, e.size = 0) ∧ st'.sects = st.sects := by
  unfold mergeGroup at h
  cases hg : g.getLast? with
  | none =>
    rw [hg] at h
    cases h
    rw [List.getLast?_eq_none_iff.1 hg]
    simp
  | some main =>
    rw [hg] at h
    simp only [] at h
    split at h
    · cases h
    · split at h
      · cases h
      · rename_i st1 h1
        cases h
        exact ⟨rfl, rfl, rfl, mergeExtras_ok h1⟩

theorem mergeGroups_ok {lastId : Nat} {gs : List (List ABlock)} {st st' : AState} {s s' : ASect}
    (h : mergeGroups lastId st s gs = .ok (st', s')) :
    s'.blocks = s.blocks ++ mains gs ∧ s'.dataLen = s.dataLen ∧ s'.name = s.name ∧
    (∀ g ∈ gs, ∀ e ∈ g.dropLast, e.size = 0) ∧ st'.sects = st.sects := by
  induction gs generalizing st s with
  | nil => cases h; simp [mains]
  | cons g gs ih =>
    simp only [mergeGroups] at h
    split at h
    · cases h
    · rename_i st1 s1 h1
      obtain ⟨hb1, hd1, hn1, hz1, hs1⟩ := mergeGroup_ok h1
      obtain ⟨hb2, hd2, hn2, hz2, hs2⟩ := ih h
      refine ⟨by rw [hb2, hb1, mains_cons, List.append_assoc], hd2.trans hd1, hn2.trans hn1, ?_, hs2.trans hs1⟩
      intro g' hg'
      rcases List.mem_cons.1 hg' with rfl | hg'
      · exact hz1
      · exact hz2 g' hg'

/-- what a section looks like after a phase of finalisation: tiled, empty blocks only last -/
def Final (s : ASect) : Prop :=
  tiles 0 s.blocks = some s.dataLen ∧ OffsDiffer s.blocks

/-- the half of `TiledS` that survives finalisation: `removeTrailing` may leave a section without blocks -/
def Tiles (s : ASect) : Prop := tiles 0 s.blocks = some s.dataLen

theorem removeEmptyBlocks_final {st st' : AState} {s s' : ASect} (hs : Tiles s)
    (h : removeEmptyBlocks st s = .ok (st', s')) :
    Final s' ∧ s'.name = s.name ∧ st'.sects = st.sects := by
  obtain ⟨hb, hd, hn, hz, hs'⟩ := mergeGroups_ok h
  simp only [List.nil_append] at hb
  rw [Final, hb, hd]
  exact ⟨⟨tiles_mains hz hs, (mains_offsDiffer s.blocks).2.2⟩, hn, hs'⟩

theorem removeEmptyBlocks_ok {st st' : AState} {s s' : ASect} (hs : TiledS s)
    (h : removeEmptyBlocks st s = .ok (st', s')) :
    Final s' ∧ s'.name = s.name ∧ st'.sects = st.sects :=
  removeEmptyBlocks_final hs.2 h

theorem convertOne_sects {t : Target} {exec : Bool} {st st' : AState} {i : Nat} {b : ABlock}
    (h : convertOne t exec st i b = .ok st') : st'.sects = st.sects := by
  unfold convertOne at h
  split at h
  · split at h
    · cases h
    · injection h with h; rw [← h]
  · split at h
    · cases h
    · injection h with h; rw [← h]

theorem convertFrom_sects {t : Target} {exec : Bool} {bs : List ABlock} {st st' : AState} {i : Nat}
    (h : convertFrom t exec st i bs = .ok st') : st'.sects = st.sects := by
  induction bs generalizing st i with
  | nil => cases h; rfl
  | cons b bs ih =>
    simp only [convertFrom] at h
    split at h
    · cases h
    · rename_i st1 h1
      rw [ih h, convertOne_sects h1]

theorem OffsDiffer.dropLast : ∀ {l : List ABlock}, OffsDiffer l → OffsDiffer l.dropLast
  | [], _ => by simp [OffsDiffer]
  | [_], _ => by simp [OffsDiffer]
  | [_, _], _ => by simp [OffsDiffer]
  | a :: b :: c :: rest, h => by
    have ih := OffsDiffer.dropLast (l := b :: c :: rest) h.2
    simp only [List.dropLast] at ih ⊢
    exact ⟨h.1, ih⟩

theorem Final.dropLast {s s' : ASect} (hs : Final s) {last : ABlock} (hl : s.blocks.getLast? = some last) (hz : last.size = 0)
    (hb : s'.blocks = s.blocks.dropLast) (hd : s'.dataLen = s.dataLen) : Final s' := by
  obtain ⟨ys, hys⟩ := List.getLast?_eq_some_iff.1 hl
  have ho := hs.2.dropLast
  obtain ⟨q, hq, _, he⟩ := tiles_concat.1 (hys ▸ hs.1)
  rw [hys, List.dropLast_concat] at ho
  rw [hz, Nat.add_zero] at he
  rw [Final, hb, hd, hys, List.dropLast_concat]
  exact ⟨he ▸ hq, ho⟩

theorem removeTrailing_ok {st st' : AState} {s s' : ASect} (hs : Final s) (h : removeTrailing st s = .ok (st', s')) :
    Final s' ∧ s'.name = s.name ∧ st'.sects = st.sects := by
  unfold removeTrailing at h
  split at h
  next => cases h
  next last hlast =>
    simp only [] at h
    split at h
    next hc =>
      simp only [Bool.and_eq_true, beq_iff_eq] at hc
      split at h
      · cases h
      · cases h
        exact ⟨hs.dropLast hlast hc.1.1.1 rfl rfl, rfl, rfl⟩
    next =>
      split at h
      next hc =>
        simp only [Bool.and_eq_true, beq_iff_eq] at hc
        cases h
        exact ⟨hs.dropLast hlast hc.1.1.1 rfl rfl, rfl, rfl⟩
      next =>
        cases h
        exact ⟨hs, rfl, rfl⟩

/-- one round of the loop of `finalize` leaves the section of that name `Final` and every other one as it was -/
theorem finalizeSect_ok {t : Target} {st st' : AState} {n : String} (hi : ∀ s ∈ st.sects, Tiles s)
    (h : finalizeSect t st n = .ok st') : ∀ x ∈ st'.sects, Final x ∨ (x ∈ st.sects ∧ x.name ≠ n) := by
  unfold finalizeSect at h
  split at h
  · rename_i hnone
    cases h
    exact fun x hx => .inr ⟨hx, by simpa using List.find?_eq_none.1 hnone x hx⟩
  · rename_i s hfind
    have hsn := List.find?_some hfind
    split at h
    · cases h
    · rename_i st1 s1 h1
      obtain ⟨hf1, hn1, hs1⟩ := removeEmptyBlocks_final (hi s (List.mem_of_find?_eq_some hfind)) h1
      split at h
      · cases h
      · rename_i st2 h2
        split at h
        · cases h
        · rename_i st3 s3 h3
          obtain ⟨hf3, hn3, hs3⟩ := removeTrailing_ok hf1 h3
          cases h
          intro x hx
          rcases mem_setSect hx with rfl | ⟨hy, hne⟩
          · exact .inl hf3
          · rw [hs3, convertFrom_sects h2, hs1] at hy
            rw [hn3, hn1, beq_iff_eq.1 hsn] at hne
            exact .inr ⟨hy, by simpa using hne⟩

theorem finalizeSects_ok {t : Target} {ns : List String} {st st' : AState} (hi : ∀ s ∈ st.sects, Tiles s)
    (h : finalizeSects t st ns = .ok st') : ∀ x ∈ st'.sects, Final x ∨ (x ∈ st.sects ∧ x.name ∉ ns) := by
  induction ns generalizing st with
  | nil => cases h; exact fun x hx => .inr ⟨hx, List.not_mem_nil⟩
  | cons n ns ih =>
    simp only [finalizeSects] at h
    split at h
    · cases h
    · rename_i st1 h1
      have hstep := finalizeSect_ok hi h1
      intro x hx
      rcases ih (fun s hs => (hstep s hs).elim (·.1) (hi s ·.1)) h x hx with hf | ⟨hx1, hns⟩
      · exact .inl hf
      · exact (hstep x hx1).imp_right fun ⟨hx0, hn⟩ => ⟨hx0, by simp [hn, hns]⟩

theorem finalize_final {t : Target} {st st' : AState} (hi : Inv st) (h : finalize t st = .ok st') :
    ∀ s ∈ st'.sects, Final s := by
  intro s hs
  unfold finalize at h
  -- the loop runs over the names of all sections
  refine (finalizeSects_ok ?_ h s hs).resolve_right fun ⟨hs0, hn⟩ => hn (List.mem_map_of_mem hs0)
  exact fun x hx => (hi x hx).2

theorem nonlast_nonempty : ∀ {l : List ABlock} {p e : Nat}, tiles p l = some e → OffsDiffer l → ∀ b ∈ l.dropLast, b.size ≠ 0
  | [], _, _, _, _ => by simp
  | [_], _, _, _, _ => by simp
  | a :: b :: rest, p, e, ht, hd => by
    obtain ⟨ha, ht⟩ := tiles_cons.1 ht
    intro x hx
    rcases List.mem_cons.1 (show x ∈ a :: (b :: rest).dropLast from hx) with rfl | hx
    · intro hz
      -- an empty block would put its successor at its own offset
      exact hd.1 (by rw [(tiles_cons.1 ht).1, ha, hz, Nat.add_zero])
    · exact nonlast_nonempty ht hd.2 x hx

end GtirbVerif.Asm
