import GtirbVerif.Model.Asm.Streamer
/-!
What a successful call of each function of the streamer returned (`_ok`; for the pre-pass and for a
chunk list, exactly when it succeeds), in terms of the definitions below, and the folds lifted once
(`_induct`).  The liftings hand the step the membership of its event or name in the list folded over,
so that a fact relating the result to the start (`P := R st₀`) and bounded by the whole list goes
through them too.
-/
namespace GtirbVerif.Asm

def namesOf (ex : List (String × Nat)) : List String := ex.map (·.1)

def fixNames (f : Fixup) : List String := if f.sym2 == "" then [f.sym] else [f.sym, f.sym2]

def Event.mentions : Event → List String
  | .label n => [n]
  | .insn _ _ _ fx => fx.flatMap fixNames
  | .value _ f => fixNames f
  | .leb _ f => fixNames f
  | _ => []

theorem sym_mem_fixNames (f : Fixup) : f.sym ∈ fixNames f := by
  unfold fixNames; split <;> simp

theorem sym2_mem_fixNames {f : Fixup} (h : ¬(f.sym2 == "") = true) : f.sym2 ∈ fixNames f := by
  simp [fixNames, h]

theorem any_fst_false {β : Type} {l : List (String × β)} {n : String} : l.any (·.1 == n) = false ↔ n ∉ l.map (·.1) := by
  simp only [List.any_eq_false, beq_iff_eq, List.mem_map, not_exists, not_and]

theorem find?_fst_none {β : Type} {l : List (String × β)} {n : String} : l.find? (·.1 == n) = none ↔ n ∉ l.map (·.1) := by
  simp only [List.find?_eq_none, beq_iff_eq, List.mem_map, not_exists, not_and]

theorem find_none_notin {l : List (String × Nat)} {n : String} (h : l.find? (·.1 == n) = none) : n ∉ namesOf l :=
  find?_fst_none.1 h

/-- the triple test of `resolveRef` and `precreate` (with `any`: `unknown_iff`) and of `resolveTarget`
(with `find?`), failing -/
def Unknown (t : Target) (st : AState) (n : String) : Prop :=
  n ∉ namesOf st.locals ∧ n ∉ namesOf st.undefs ∧ n ∉ t.moduleSyms.map (·.1)

theorem unknown_iff {t : Target} {st : AState} {n : String} :
    Unknown t st n ↔ (st.locals.any (·.1 == n) || st.undefs.any (·.1 == n) || t.moduleSyms.any (·.1 == n)) = false := by
  simp only [Bool.or_eq_false_iff, any_fst_false, Unknown, namesOf, and_assoc]

/-- the record update in the last branch of `resolveRef` and of `resolveTarget` -/
def allocUndef (st : AState) (n : String) : AState :=
  { st with undefs := st.undefs ++ [(n, st.next)], proxies := st.proxies ++ [st.next], next := st.next + 1 }

/-- the record update of `insnTarget` for an indirect transfer, and of `stepInsn` for a return -/
def allocProxy (st : AState) : AState := { st with proxies := st.proxies ++ [st.next], next := st.next + 1 }

theorem resolveRef_ok {t : Target} {st st' : AState} {n : String} (h : resolveRef t st n = .ok st') :
    st' = st ∨ (Unknown t st n ∧ st' = allocUndef st n) := by
  unfold resolveRef at h
  split at h
  · cases h; exact .inl rfl
  · rename_i hk
    split at h
    · cases h
    · cases h; exact .inr ⟨unknown_iff.2 (Bool.eq_false_iff.2 hk), rfl⟩

theorem resolveTarget_ok {t : Target} {st st' : AState} {n : String} {nd : Node} (h : resolveTarget t st n = .ok (st', nd)) :
    (st' = st ∧ ∀ p, nd = .proxy p → p ∈ st.undefs.map (·.2)) ∨
    (Unknown t st n ∧ st' = allocUndef st n ∧ nd = .proxy st.next) := by
  unfold resolveTarget at h
  split at h
  next => cases h; exact .inl ⟨rfl, nofun⟩
  next hl =>
    split at h
    next x p hu =>
      cases h
      exact .inl ⟨rfl, fun q hq => by cases hq; exact List.mem_map.2 ⟨_, List.mem_of_find?_eq_some hu, rfl⟩⟩
    next hu =>
      split at h
      next =>
        split at h
        · cases h; exact .inl ⟨rfl, nofun⟩
        · cases h
      next hm =>
        split at h
        · cases h
        · cases h; exact .inr ⟨⟨find?_fst_none.1 hl, find?_fst_none.1 hu, find?_fst_none.1 hm⟩, rfl, rfl⟩

theorem insnTarget_ok {t : Target} {st st' : AState} {ind : Bool} {fx : List Fixup} {nd : Node} {d : Bool}
    (h : insnTarget t st ind fx = .ok (st', nd, d)) :
    (ind = true ∧ st' = allocProxy st ∧ nd = .proxy st.next ∧ d = false) ∨
    (ind = false ∧ d = true ∧ ∃ f, fx = [f] ∧ f.addend = 0 ∧ resolveTarget t st f.sym = .ok (st', nd)) := by
  unfold insnTarget at h
  split at h
  · rename_i hi
    cases h; exact .inl ⟨hi, rfl, rfl, rfl⟩
  · rename_i hi
    split at h
    · rename_i f
      split at h
      · cases h
      · rename_i ha
        cases hr : resolveTarget t st f.sym with
        | error e => rw [hr] at h; cases h
        | ok r =>
          rw [hr] at h
          cases h
          exact .inr ⟨by simpa using hi, rfl, f, rfl, by simpa using ha, hr⟩
    · cases h

theorem stepInsn_ok {t : Target} {st st' : AState} {s s2 : ASect} {size : Nat} {kind : IKind} {ind : Bool} {fx : List Fixup}
    (hs2 : s2 = insnSect s size fx) (h : stepInsn t st s size kind ind fx = .ok st') :
    ∃ st0, resolveFixups t st fx = .ok st0 ∧
      ((kind = .other ∧ st' = (markCode st0 s2.curBlock.id).setSect s2) ∨
       (kind = .ret ∧ ∃ st2 : AState,
          st2 = { allocProxy (markCode st0 s2.curBlock.id) with
                  cfg := (markCode st0 s2.curBlock.id).cfg ++ [retEdge s2.curBlock.id st0.next] } ∧
          st' = (splitBlock st2 s2 false).1.setSect (splitBlock st2 s2 false).2) ∨
       (kind ≠ .other ∧ kind ≠ .ret ∧ ∃ st2 tgt direct,
          insnTarget t (markCode st0 s2.curBlock.id) ind fx = .ok (st2, tgt, direct) ∧
          ∃ st3 : AState, st3 = { st2 with cfg := st2.cfg ++ [xferEdge s2.curBlock.id tgt kind direct] } ∧
          st' = (splitBlock st3 s2 (kind == .call || kind == .jcc)).1.setSect
                  (splitBlock st3 s2 (kind == .call || kind == .jcc)).2)) := by
  subst hs2
  unfold stepInsn at h
  split at h
  · cases h
  · rename_i st0 h0
    refine ⟨st0, h0, ?_⟩
    split at h
    · cases h; exact .inl ⟨rfl, rfl⟩
    · cases h; exact .inr (.inl ⟨rfl, _, rfl, rfl⟩)
    · rename_i hk1 hk2
      simp only [] at h
      split at h
      · cases h
      · rename_i st2 tgt direct ht
        cases h
        exact .inr (.inr ⟨hk1, hk2, st2, tgt, direct, ht, _, rfl, rfl⟩)

theorem step_ok {t : Target} {st st' : AState} {ev : Event} (h : step t st ev = .ok st') :
    (∃ name exec, ev = .section name exec ∧ st' = stepSection st name exec) ∨
    (∃ s, st.sect? = some s ∧ stepIn t st s ev = .ok st') := by
  unfold step at h
  split at h
  · cases h; exact .inl ⟨_, _, rfl, rfl⟩
  · split at h
    · cases h
    · rename_i s hs; exact .inr ⟨s, hs, h⟩

def withLocals (st : AState) (ex : List (String × Nat)) : AState := { st with locals := st.locals ++ ex }

/-- what `precreate` appends to `locals` when these hold `k` labels; the id `2k+1` is the rule stated
at the head of the first pass in Model/Asm/Streamer.lean -/
def newLocals (k : Nat) : List Event → List (String × Nat)
  | [] => []
  | .label n :: es => (n, 2 * k + 1) :: newLocals (k + 1) es
  | _ :: es => newLocals k es

def labelsOf : List Event → List String
  | [] => []
  | .label n :: es => n :: labelsOf es
  | _ :: es => labelsOf es

theorem namesOf_newLocals (k : Nat) (c : List Event) : namesOf (newLocals k c) = labelsOf c := by
  induction c generalizing k with
  | nil => rfl
  | cons e es ih =>
    cases e with
    | label n => exact congrArg (n :: ·) (ih _)
    | _ => exact ih _

/-- what the test `precreate` makes label by label amounts to for the whole chunk (`precreate_ok`) -/
def Admits (t : Target) (st : AState) (c : List Event) : Prop :=
  (labelsOf c).Nodup ∧ ∀ n ∈ labelsOf c, Unknown t st n

theorem unknown_withLocals {t : Target} {st : AState} {ex : List (String × Nat)} {n : String} :
    Unknown t (withLocals st ex) n ↔ Unknown t st n ∧ n ∉ namesOf ex := by
  simp only [Unknown, withLocals, namesOf, List.map_append, List.mem_append, not_or]
  exact ⟨fun ⟨⟨hl, hx⟩, hu, hm⟩ => ⟨⟨hl, hu, hm⟩, hx⟩, fun ⟨⟨hl, hu, hm⟩, hx⟩ => ⟨⟨hl, hx⟩, hu, hm⟩⟩

theorem admits_label {t : Target} {st : AState} {n : String} {id : Nat} {es : List Event} :
    Admits t st (.label n :: es) ↔ Unknown t st n ∧ Admits t (withLocals st [(n, id)]) es := by
  simp only [Admits, labelsOf, List.nodup_cons, List.mem_cons, forall_eq_or_imp, unknown_withLocals, namesOf, List.map_cons,
    List.map_nil, List.not_mem_nil, or_false]
  exact ⟨fun ⟨⟨hn, hd⟩, hk, hu⟩ => ⟨hk, hd, fun m hm => ⟨hu m hm, fun h => hn (h ▸ hm)⟩⟩,
    fun ⟨hk, hd, hu⟩ => ⟨⟨fun hn => (hu n hn).2 rfl, hd⟩, hk, fun m hm => (hu m hm).1⟩⟩

theorem precreate_ok {t : Target} {c : List Event} {st r : AState} :
    precreate t st c = .ok r ↔ Admits t st c ∧ r = withLocals st (newLocals st.locals.length c) := by
  induction c generalizing st with
  | nil => simp [precreate, Admits, labelsOf, newLocals, withLocals]; exact eq_comm
  | cons e es ih =>
    cases e with
    | label n =>
      rw [admits_label (id := 2 * st.locals.length + 1), unknown_iff]
      simp only [precreate, newLocals]
      split
      · rename_i hb; simp [hb]
      · rename_i hb
        simp only [Bool.eq_false_iff.2 hb, true_and]
        rw [show ({ st with locals := st.locals ++ [(n, 2 * st.locals.length + 1)] } : AState) = withLocals st [(n, 2 * st.locals.length + 1)] from rfl, ih]
        simp [withLocals]
    | _ => simpa [precreate, Admits, labelsOf, newLocals] using ih

theorem resolveFix_induct {t : Target} {P : AState → Prop} {f : Fixup}
    (hP : ∀ n ∈ fixNames f, ∀ st st', P st → resolveRef t st n = .ok st' → P st')
    {st st' : AState} (h : P st) (hr : resolveFix t st f = .ok st') : P st' := by
  unfold resolveFix at hr
  split at hr
  · cases hr
  · rename_i st1 h1
    have p1 := hP f.sym (sym_mem_fixNames f) _ _ h h1
    split at hr
    · cases hr; exact p1
    · rename_i h2
      exact hP f.sym2 (sym2_mem_fixNames h2) _ _ p1 hr

theorem resolveFixups_induct {t : Target} {P : AState → Prop} {fx : List Fixup}
    (hP : ∀ n ∈ fx.flatMap fixNames, ∀ st st', P st → resolveRef t st n = .ok st' → P st')
    {st st' : AState} (h : P st) (hr : resolveFixups t st fx = .ok st') : P st' := by
  induction fx generalizing st with
  | nil => cases hr; exact h
  | cons f fs ih =>
    simp only [resolveFixups] at hr
    split at hr
    · cases hr
    · rename_i st1 h1
      simp only [List.flatMap_cons, List.mem_append] at hP
      exact ih (fun n hn => hP n (.inr hn)) (resolveFix_induct (fun n hn => hP n (.inl hn)) h h1) hr

theorem run_induct {t : Target} {P : AState → Prop} {evs : List Event}
    (hP : ∀ ev ∈ evs, ∀ st st', P st → step t st ev = .ok st' → P st')
    {st st' : AState} (h : P st) (hr : run t st evs = .ok st') : P st' := by
  induction evs generalizing st with
  | nil => cases hr; exact h
  | cons e es ih =>
    simp only [run] at hr
    split at hr
    · cases hr
    · rename_i st1 h1
      exact ih (fun ev hev => hP ev (List.mem_cons_of_mem _ hev)) (hP e List.mem_cons_self _ _ h h1) hr

theorem assembleChunks_cons_ok {t : Target} {st r : AState} {c : List Event} {cs : List (List Event)} :
    assembleChunks t st (c :: cs) = .ok r ↔
      ∃ sp sa, precreate t st c = .ok sp ∧ run t sp c = .ok sa ∧ assembleChunks t sa cs = .ok r := by
  simp only [assembleChunks]
  cases precreate t st c with
  | error e => simp
  | ok sp => cases h2 : run t sp c <;> simp [h2]

theorem assembleChunks_induct {t : Target} {P : AState → Prop}
    (hpre : ∀ c st st', P st → precreate t st c = .ok st' → P st')
    (hrun : ∀ c st st', P st → run t st c = .ok st' → P st')
    {chunks : List (List Event)} {st st' : AState} (h : P st) (hr : assembleChunks t st chunks = .ok st') : P st' := by
  induction chunks generalizing st with
  | nil => cases hr; exact h
  | cons c cs ih =>
    obtain ⟨sp, sa, h1, h2, hr⟩ := assembleChunks_cons_ok.1 hr
    exact ih (hrun _ _ _ (hpre _ _ _ h h1) h2) hr

end GtirbVerif.Asm
