import GtirbVerif.Spec.AdtSpec

namespace GtirbVerif.Adt

theorem dictGet_dictSet {β} (k k' : Nat) (v : β) (l : List (Nat × β)) :
    dictGet k' (dictSet k v l) = if k' = k then some v else dictGet k' l := by
  induction l with
  | nil => simp [dictSet, dictGet, eq_comm]
  | cons p r ih =>
    by_cases hk : k' = k
    · subst hk
      by_cases ha : p.1 = k' <;> simp [dictSet, dictGet, ha, ih]
    · by_cases ha : p.1 = k <;> simp [dictSet, dictGet, ha, ih, hk, Ne.symm hk]

theorem dictGet_dictDel {β} (k k' : Nat) (l : List (Nat × β)) :
    dictGet k' (dictDel k l) = if k' = k then none else dictGet k' l := by
  induction l with
  | nil => simp [dictDel, dictGet]
  | cons p r ih =>
    by_cases hk : k' = k
    · subst hk
      by_cases ha : p.1 = k' <;> simp [dictDel, dictGet, ha, ih]
    · by_cases ha : p.1 = k <;> simp [dictDel, dictGet, ha, ih, hk, Ne.symm hk]

theorem omap_getE (m : OMap) (e : Nat) :
    (m.getE e).toOption.isSome = (absOMap m).elem e ∧
    ∀ sub, m.getE e = .ok sub → ∀ d, dictGet d sub = (absOMap m).val e d := by
  simp only [OMap.getE, absOMap]
  cases h : dictGet e m.data with
  | none => simp [Except.toOption]
  | some sub => simp [Except.toOption]

end GtirbVerif.Adt
