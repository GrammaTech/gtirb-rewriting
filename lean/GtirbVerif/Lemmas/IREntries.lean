import GtirbVerif.Lemmas.IRMirror

/-!
# Entries are blocks of their function — over whole rewrites

`EntSub`: every block `functionEntries` lists for a function is listed by `functionBlocks` for it.
Only `remove_function_block_aux` (drops the block from both tables) and the entry promotion of
`remove_block` (the next block, of the same function by the cache, becomes an entry) write the entry table;
`add_function_block_aux` only adds to the block table.  The promotion is where the cache has to mirror the
table, so the property survives the writes together with the cache invariant (`entSub_funcs`), hence whole
rewrites.
-/
namespace GtirbVerif.IR
open GtirbVerif.Adt (CfgNode Label Edge)

/-- entries are a subset of blocks -/
def EntSub (ir : IR) : Prop := ∀ b f, ir.isEntry b f → ir.inFunc b f

theorem EntSub.of_same {a b : IR} (hb : b.aux.funcBlocks = a.aux.funcBlocks) (he : b.aux.funcEntries = a.aux.funcEntries)
    (h : EntSub a) : EntSub b := by
  intro c f hc
  unfold IR.isEntry at hc
  unfold IR.inFunc
  rw [he] at hc
  rw [hb]; exact h c f hc

theorem addFunctionBlock_entSub (x : IR) (b f : Nat) (h : EntSub x) : EntSub (x.addFunctionBlock b f) :=
  fun c g hc => (mem_setAdd ..).mpr (Or.inl (h c g hc))

theorem removeFunctionBlock_entSub (x : IR) (b : Nat) (h : EntSub x) : EntSub (x.removeFunctionBlock b) := fun c g hc =>
  -- the block leaves both tables under the same condition
  have hc' := (removeFunctionBlock_tables x b c g).2.mp hc
  (removeFunctionBlock_tables x b c g).1.mpr ⟨h c g hc'.1, hc'.2⟩

theorem entSub_funcs : FuncsInv (fun ir => MInv ir ∧ EntSub ir) where
  same hf hk h := ⟨minv_funcs.same hf hk h.1, h.2.of_same (congrArg (·.2.1) hf) (congrArg (·.2.2) hf)⟩
  add x b f hnew hblk h := ⟨minv_funcs.add x b f hnew hblk h.1, addFunctionBlock_entSub x b f h.2⟩
  remove x b h := ⟨minv_funcs.remove x b h.1, removeFunctionBlock_entSub x b h.2⟩
  promote x f e he h := ⟨minv_funcs.promote x f e he h.1, fun c g hc => by
    -- the next block becomes an entry of the function the cache gives it, and the cache mirrors the table
    rcases (mem_setAdd ..).mp hc with hc | ⟨rfl, rfl⟩
    · exact h.2 c g hc
    · exact (h.1.1 c g).mp he⟩
  keys _ h := h.1.2

/-- **entries stay blocks of their function through `apply()`'s whole loop over the blocks** -/
theorem applyAll_entSub : ∀ (rs : List BlockMods) (ir ir' : IR),
    ir.applyAll rs = .ok ir' → IdsBelow ir → (∀ r ∈ rs, ReqOk ir r) → (rs.map (ivOf ir)).Nodup → NewBlocksAll ir rs →
    MInv ir → EntSub ir → MInv ir' ∧ EntSub ir' :=
  fun rs ir ir' h hI hok hnd hnew hm he => entSub_funcs.applyAll rs ir ir' h hI hok hnd hnew ⟨hm, he⟩

theorem joinCode_split' (x : IR) (b1 : Block) (id2 s2 : Nat) :
    ∃ i3 : IR, x.joinCode b1 id2 s2 = i3.removeFunctionBlock id2 ∧ i3.fbb = x.fbb ∧
      i3.aux.funcEntries = x.aux.funcEntries := by
  obtain ⟨i3, he, h⟩ := joinCode_split x b1 id2 s2
  exact ⟨i3, he, h IR.fbb (fun _ _ => rfl), h (·.aux.funcEntries) (fun _ _ => rfl)⟩

/-- **deleting an entry block promotes the next block only if it is in the same function**: every
entry after `_update_functions_aux_data` was an entry before, except the next block - and that one
only when the removed block was an entry of its function, the next block is code and the cache
puts both in the same function -/
theorem removeFunctions_isEntry (x : IR) (blk : Block) (n : Option Nat) (nc : Bool) (c g : Nat)
    (h : (x.removeFunctions blk n nc).isEntry c g) :
    x.isEntry c g ∨ (c = n.getD 0 ∧ nc = true ∧ x.isEntry blk.id g ∧ alookup blk.id x.fbb = some g ∧
      x.sameFunction blk.id (n.getD 0) = true) := by
  rcases removeFunctions_cases x blk n nc with e | e | ⟨f, hf, he, hnc, hs, e⟩ <;> rw [e] at h
  · exact Or.inl h
  · exact Or.inl ((removeFunctionBlock_tables _ _ _ _).2.mp h).1
  · rcases (mem_setAdd ..).mp ((removeFunctionBlock_tables _ _ _ _).2.mp h).1 with h2 | ⟨rfl, rfl⟩
    · exact Or.inl h2
    · exact Or.inr ⟨rfl, hnc, he, hf, hs⟩

/-- the same for everything `remove_block` does before it unlinks the block: with
`retarget_to_proxy` nothing is promoted at all -/
theorem removeStages_isEntry (x : IR) (blk : Block) (t c : Bool) (px p n : Option Nat) (k g : Nat)
    (h : (x.removeStages blk t c px p n).isEntry k g) :
    x.isEntry k g ∨ (t = false ∧ k = n.getD 0 ∧ x.isCodeBlockId n = true ∧ x.isEntry blk.id g ∧
      alookup blk.id x.fbb = some g ∧ x.sameFunction blk.id (n.getD 0) = true) := by
  unfold IR.isEntry at h
  cases c
  · rw [removeStages_false, removeCfi_funcEntries, removeAuxEntries_funcEntries, removeOutEdges_funcEntries] at h
    exact Or.inl h
  · rw [removeStages_true, removeCfi_funcEntries, removeAuxEntries_funcEntries, removeOutEdges_funcEntries,
      removeEntrypoints_funcEntries] at h
    -- `removeFunctions` ran on a state with the function tables of `x`
    have h' := removeFunctions_isEntry _ blk _ _ k g h
    unfold IR.isEntry IR.sameFunction at h' ⊢
    rw [removeInEdges_funcEntries, removeInEdges_fbb] at h'
    cases t
    · exact h'.imp_right fun ⟨h2, h3, h4, h5, h6⟩ => ⟨rfl, h2, h3, h4, h5, h6⟩
    · exact Or.inl (h'.resolve_right fun h2 => Bool.false_ne_true h2.2.1)

end GtirbVerif.IR
