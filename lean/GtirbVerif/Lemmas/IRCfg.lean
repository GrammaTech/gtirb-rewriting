import GtirbVerif.Lemmas.IRFields

/-!
# Edge sets after split / join (model side of C03)

The CFG is a list used as a set (`cfgAdd` / `cfgDiscard`).  The bulk edge updates of `split_block`
and `join_blocks` are passes over a snapshot of edges, each edge dropped or replaced (`bulkEdges`);
`mem_bulkEdges` says which edges the set holds afterwards, and the order of the snapshot does not matter
(`bulkEdges_perm`).
-/
namespace GtirbVerif.IR
open GtirbVerif.Adt (CfgNode Label Edge)

/-- moving a list of edges one by one: `update_edge` in a loop over a snapshot -/
def moveEdges (f : Edge → Edge) (cfg : List Edge) (l : List Edge) : List Edge :=
  l.foldl (fun c e => cfgAdd (cfgDiscard c e) (f e)) cfg

theorem foldl_setCfg {α} (g : List Edge → α → List Edge) (l : List α) (ir : IR) :
    l.foldl (fun (ir : IR) a => { ir with cfg := g ir.cfg a }) ir = { ir with cfg := l.foldl g ir.cfg } := by
  induction l generalizing ir with
  | nil => rfl
  | cons a l ih => exact ih _

/-- one pass over a snapshot `l` of edges: each is dropped (`none`) or replaced (`some`); `update_edge`
in a loop and `discard` in a loop are the two instances -/
def bulkEdges (f : Edge → Option Edge) (cfg l : List Edge) : List Edge :=
  l.foldl (fun c e => (f e).elim (cfgDiscard c e) (cfgAdd (cfgDiscard c e))) cfg

theorem moveEdges_eq_bulk (f : Edge → Edge) (cfg l : List Edge) :
    moveEdges f cfg l = bulkEdges (fun e => some (f e)) cfg l := rfl

theorem discardAll_eq_bulk (cfg l : List Edge) : l.foldl cfgDiscard cfg = bulkEdges (fun _ => none) cfg l := rfl

theorem bulkEdges_sub (f : Edge → Option Edge) (l cfg : List Edge) (e' : Edge) (h : e' ∈ bulkEdges f cfg l) :
    e' ∈ cfg ∨ ∃ e ∈ l, f e = some e' := by
  unfold bulkEdges at h
  induction l generalizing cfg with
  | nil => exact Or.inl h
  | cons e l ih =>
    rcases ih _ h with h1 | ⟨x, hx, hfx⟩
    · dsimp only at h1
      cases hfe : f e with
      | none => rw [hfe] at h1; exact Or.inl ((mem_cfgDiscard _ _ _).mp h1).1
      | some e1 =>
        rw [hfe] at h1
        rcases (mem_cfgAdd _ _ _).mp h1 with h2 | rfl
        · exact Or.inl ((mem_cfgDiscard _ _ _).mp h2).1
        · exact Or.inr ⟨e, List.mem_cons_self, hfe⟩
    · exact Or.inr ⟨x, List.mem_cons_of_mem _ hx, hfx⟩

/-- the snapshot is gone, its images are there, the rest is untouched — provided no image is itself in
the snapshot (else the result depends on the order of the loop) -/
theorem mem_bulkEdges (f : Edge → Option Edge) (l : List Edge) (hf : ∀ e ∈ l, ∀ e', f e = some e' → e' ∉ l)
    (cfg : List Edge) (e' : Edge) :
    e' ∈ bulkEdges f cfg l ↔ (e' ∈ cfg ∧ e' ∉ l) ∨ ∃ e ∈ l, f e = some e' := by
  unfold bulkEdges
  induction l generalizing cfg with
  | nil => simp
  | cons e l ih =>
    have hf' : ∀ x ∈ l, ∀ x', f x = some x' → x' ∉ l := fun x hx x' h hm =>
      hf x (List.mem_cons_of_mem _ hx) x' h (List.mem_cons_of_mem _ hm)
    rw [List.foldl_cons, ih hf']
    cases hfe : f e with
    | none =>
      simp only [Option.elim_none, mem_cfgDiscard, List.mem_cons, not_or, exists_eq_or_imp, hfe, reduceCtorEq, false_or,
        ne_eq, and_assoc]
    | some e1 =>
      -- the image of `e` is neither `e` nor due later, so it survives the rest of the pass
      have h1 : e1 ∉ l := fun hm => hf e List.mem_cons_self e1 hfe (List.mem_cons_of_mem _ hm)
      simp only [Option.elim_some, mem_cfgAdd, mem_cfgDiscard, List.mem_cons, not_or, exists_eq_or_imp, hfe,
        Option.some.injEq, ne_eq]
      constructor
      · rintro (⟨(⟨a, b⟩ | rfl), c⟩ | h)
        · exact Or.inl ⟨a, b, c⟩
        · exact Or.inr (Or.inl rfl)
        · exact Or.inr (Or.inr h)
      · rintro (⟨a, b, c⟩ | rfl | h)
        · exact Or.inl ⟨Or.inl ⟨a, b⟩, c⟩
        · exact Or.inl ⟨Or.inr rfl, h1⟩
        · exact Or.inr h

theorem bulkEdges_perm (f : Edge → Option Edge) {l l' : List Edge} (hp : l.Perm l')
    (hf : ∀ e ∈ l, ∀ e', f e = some e' → e' ∉ l) (cfg : List Edge) (e' : Edge) :
    e' ∈ bulkEdges f cfg l ↔ e' ∈ bulkEdges f cfg l' := by
  rw [mem_bulkEdges f l hf, mem_bulkEdges f l' (by simpa only [hp.mem_iff] using hf)]
  simp only [hp.mem_iff]

theorem bulkEdges_clears (f : Edge → Option Edge) (P : Edge → Prop) {cfg l : List Edge}
    (hl : ∀ e, e ∈ l ↔ e ∈ cfg ∧ P e) (hf : ∀ e e', f e = some e' → ¬ P e') :
    ∀ e ∈ bulkEdges f cfg l, ¬ P e := by
  intro e he hp
  rw [mem_bulkEdges f l (fun x _ x' hx hm => hf x x' hx ((hl x').mp hm).2)] at he
  rcases he with ⟨h1, h2⟩ | ⟨x, _, hx⟩
  · exact h2 ((hl e).mpr ⟨h1, hp⟩)
  · exact hf x e hx hp

theorem foldl_updateEdge_bulk (g : Edge → Edge) (l : List Edge) (ir : IR) :
    (l.foldl (fun ir e => ir.updateEdge e (g e)) ir).cfg = bulkEdges (fun e => some (g e)) ir.cfg l :=
  congrArg IR.cfg (foldl_setCfg (fun c e => cfgAdd (cfgDiscard c e) (g e)) l ir)

theorem foldl_discard_bulk (l : List Edge) (ir : IR) :
    (l.foldl (fun (ir : IR) e => { ir with cfg := cfgDiscard ir.cfg e }) ir).cfg = bulkEdges (fun _ => none) ir.cfg l :=
  congrArg IR.cfg (foldl_setCfg cfgDiscard l ir)

theorem foldl_shrinks {α} (f : IR → α → IR) (hf : ∀ ir a, ∀ e ∈ (f ir a).cfg, e ∈ ir.cfg) (l : List α) (ir : IR) :
    ∀ e ∈ (l.foldl f ir).cfg, e ∈ ir.cfg :=
  foldl_inv (fun x : IR => ∀ e ∈ x.cfg, e ∈ ir.cfg) f (fun x a hx e he => hx e (hf x a e he)) l ir (fun _ h => h)

theorem removeFunctionBlock_cfg (ir : IR) (b : Nat) : (ir.removeFunctionBlock b).cfg = ir.cfg :=
  removeFunctionBlock_obs _ (fun _ _ _ _ _ => rfl) ..

end GtirbVerif.IR
