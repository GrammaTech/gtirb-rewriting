import GtirbVerif.Lemmas.AsmTiling
/-!
Streaming changes `locals`, `undefs`, `proxies`, `next` and `cfg` by three kinds of move only: a symbol
for an unknown name on a new proxy, a new anonymous proxy, and anything that makes neither; only the
third touches the sections.  `step` is shown once to be a sequence of such moves, and an invariant is
then one induction over the moves.
-/
namespace GtirbVerif.Asm

/-- The moves are appended at the end, so that constructors and the lemmas below chain in the order in
which the model acts: `((h.proxy.edge e _).split s f).setSect hs'`. -/
inductive Evolves (t : Target) (M : List String) (st : AState) : AState → Prop
  | refl : Evolves t M st st
  | undef {mid : AState} (h : Evolves t M st mid) (n : String) (hm : n ∈ M) (hk : Unknown t mid n) :
      Evolves t M st (allocUndef mid n)
  | proxy {mid : AState} (h : Evolves t M st mid) : Evolves t M st (allocProxy mid)
  /-- A new edge may lead to the proxy of an undefined symbol: by `Fresh` it is an allocated one.
  `hs` speaks of the start: when a section is written back, what is known to be tiled is the section
  the step read at its start. -/
  | other {mid st' : AState} (h : Evolves t M st mid)
      (hl : st'.locals = mid.locals) (hu : st'.undefs = mid.undefs) (hp : st'.proxies = mid.proxies) (hn : mid.next ≤ st'.next)
      (hc : ∀ e ∈ st'.cfg, e ∈ mid.cfg ∨ ∀ p, e.dst = .proxy p → p ∈ mid.proxies ∨ p ∈ mid.undefs.map (·.2))
      (hs : Inv st → Inv st') :
      Evolves t M st st'

namespace Evolves
variable {t : Target} {M : List String} {a b : AState}

theorem inv (h : Evolves t M a b) (hi : Inv a) : Inv b := by
  induction h with
  | refl => exact hi
  | undef _ _ _ _ ih => exact ih
  | proxy _ ih => exact ih
  | other _ _ _ _ _ _ hs => exact hs hi

theorem same {c : AState} (h : Evolves t M a b) (hl : c.locals = b.locals) (hu : c.undefs = b.undefs) (hp : c.proxies = b.proxies)
    (hn : c.next = b.next) (hc : c.cfg = b.cfg) (hs : c.sects = b.sects) : Evolves t M a c :=
  .other h hl hu hp (Nat.le_of_eq hn.symm) (fun _ he => .inl (hc ▸ he)) (fun hi => (h.inv hi).of_sects hs)

theorem setSect {s : ASect} (h : Evolves t M a b) (hs : Inv a → TiledS s) : Evolves t M a (b.setSect s) :=
  .other h rfl rfl rfl (Nat.le_refl _) (fun _ he => .inl he) (fun hi => (h.inv hi).setSect (hs hi))

theorem markCode (h : Evolves t M a b) (id : Nat) : Evolves t M a (markCode b id) := h.same rfl rfl rfl rfl rfl rfl

theorem split (h : Evolves t M a b) (s : ASect) (f : Bool) : Evolves t M a (splitBlock b s f).1 := by
  refine .other h rfl rfl rfl (Nat.le_succ _) (fun e he => ?_) h.inv
  cases f
  · exact .inl he
  · rcases List.mem_append.1 he with he | he
    · exact .inl he
    · cases List.mem_singleton.1 he; exact .inr nofun

theorem edge (h : Evolves t M a b) (e : AEdge) (he : ∀ p, e.dst = .proxy p → p ∈ b.proxies ∨ p ∈ b.undefs.map (·.2)) :
    Evolves t M a { b with cfg := b.cfg ++ [e] } := by
  refine .other h rfl rfl rfl (Nat.le_refl _) (fun x hx => ?_) h.inv
  rcases List.mem_append.1 hx with hx | hx
  · exact .inl hx
  · cases List.mem_singleton.1 hx; exact .inr he

theorem encoded (h : Evolves t M a b) (s : ASect) (n : Nat) (ty : DType) (e : Option Fixup) :
    Evolves t M a (encoded b s n ty e).1 := by
  simp only [Asm.encoded]
  refine Evolves.split ?_ _ false
  exact (h.split s false).same rfl rfl rfl rfl rfl rfl

end Evolves

theorem resolveRef_evolves {t : Target} {M : List String} {a st st' : AState} {n : String} (hn : n ∈ M)
    (h : Evolves t M a st) (hr : resolveRef t st n = .ok st') : Evolves t M a st' := by
  rcases resolveRef_ok hr with rfl | ⟨hk, rfl⟩
  · exact h
  · exact h.undef n hn hk

theorem resolveFix_evolves {t : Target} {M : List String} {a st st' : AState} {f : Fixup} (hM : ∀ n ∈ fixNames f, n ∈ M)
    (h : Evolves t M a st) (hr : resolveFix t st f = .ok st') : Evolves t M a st' :=
  resolveFix_induct (fun n hn _ _ => resolveRef_evolves (hM n hn)) h hr

theorem resolveFixups_evolves {t : Target} {M : List String} {a st st' : AState} {fx : List Fixup}
    (hM : ∀ n ∈ fx.flatMap fixNames, n ∈ M) (h : Evolves t M a st) (hr : resolveFixups t st fx = .ok st') : Evolves t M a st' :=
  resolveFixups_induct (fun n hn _ _ => resolveRef_evolves (hM n hn)) h hr

theorem insnTarget_evolves {t : Target} {M : List String} {a st st' : AState} {ind : Bool} {fx : List Fixup} {nd : Node} {d : Bool}
    (hM : ∀ n ∈ fx.flatMap fixNames, n ∈ M) (h : Evolves t M a st) (hr : insnTarget t st ind fx = .ok (st', nd, d)) :
    Evolves t M a st' ∧ ∀ p, nd = .proxy p → p ∈ st'.proxies ∨ p ∈ st'.undefs.map (·.2) := by
  rcases insnTarget_ok hr with ⟨_, rfl, rfl, _⟩ | ⟨_, _, f, rfl, _, hr⟩
  · exact ⟨h.proxy, fun p hp => by cases hp; simp [allocProxy]⟩
  · rcases resolveTarget_ok hr with ⟨rfl, hp⟩ | ⟨hk, rfl, rfl⟩
    · exact ⟨h, fun p hp' => .inr (hp p hp')⟩
    · exact ⟨h.undef f.sym (hM _ (by simpa using sym_mem_fixNames f)) hk, fun p hp => by cases hp; simp [allocUndef]⟩

theorem stepInsn_evolves {t : Target} {M : List String} {a st st' : AState} {s : ASect} {size : Nat} {kind : IKind} {ind : Bool}
    {fx : List Fixup} (hM : ∀ n ∈ fx.flatMap fixNames, n ∈ M) (h : Evolves t M a st) (hs : Inv a → TiledS s)
    (hr : stepInsn t st s size kind ind fx = .ok st') : Evolves t M a st' := by
  obtain ⟨st0, h0, hk⟩ := stepInsn_ok rfl hr
  have e1 := (resolveFixups_evolves hM h h0).markCode (insnSect s size fx).curBlock.id
  have hs2 := fun hi => (hs hi).insnSect size fx
  rcases hk with ⟨_, rfl⟩ | ⟨_, _, rfl, rfl⟩ | ⟨_, _, st2, tgt, direct, ht, _, rfl, rfl⟩
  · exact e1.setSect hs2
  · exact ((e1.proxy.edge (retEdge _ _) (fun p hp => by cases hp; simp [allocProxy, Asm.markCode])).split _ _).setSect
      fun hi => (hs2 hi).split _ _
  · obtain ⟨e2, hp2⟩ := insnTarget_evolves hM e1 ht
    exact ((e2.edge (xferEdge _ tgt kind direct) hp2).split _ _).setSect fun hi => (hs2 hi).split _ _

theorem step_evolves {t : Target} {M : List String} {a st st' : AState} {ev : Event} (hM : ∀ n ∈ ev.mentions, n ∈ M)
    (h : Evolves t M a st) (hr : step t st ev = .ok st') : Evolves t M a st' := by
  rcases step_ok hr with ⟨name, exec, rfl, rfl⟩ | ⟨s, hsec, hr⟩
  · unfold stepSection
    split
    · exact h.same rfl rfl rfl rfl rfl rfl
    · refine .other h rfl rfl rfl (Nat.le_succ _) (fun _ he => .inl he) (fun hi x hx => ?_)
      rcases List.mem_append.1 hx with hx | hx
      · exact h.inv hi x hx
      · cases List.mem_singleton.1 hx; exact ⟨by simp, by simp [tiles]⟩
  · have hs : Inv a → TiledS s := fun hi => h.inv hi s (sect?_mem hsec)
    cases ev <;> simp only [stepIn] at hr
    case «section» => cases hr; exact h
    case label =>
      unfold stepLabel at hr
      split at hr
      · cases hr
      · cases hr; exact (h.edge _ (fun _ hp => Node.noConfusion hp)).setSect fun hi => (hs hi).push _
    case insn => exact stepInsn_evolves hM h hs hr
    case value =>
      unfold stepValue at hr
      split at hr
      · cases hr
      · rename_i st0 h0
        cases hr; exact (resolveFix_evolves hM h h0).setSect fun hi => ((hs hi).congr rfl rfl).append _
    case rawBytes | fill => cases hr; exact h.setSect fun hi => (hs hi).append _
    case strBytes =>
      cases hr
      unfold stepStr
      split
      · rename_i hc
        simp only [canTerminate, Bool.and_eq_true, decide_eq_true_eq, beq_iff_eq] at hc
        exact Evolves.setSect (b := { st with blockTypes := _ }) (h.same rfl rfl rfl rfl rfl rfl)
          fun hi => (hs hi).terminate hc.1.2 hc.1.1.2
      · exact (h.encoded ..).setSect fun hi => (hs hi).encoded ..
    case leb =>
      unfold stepLeb at hr
      split at hr
      · cases hr
      · rename_i st0 h0
        cases hr; exact ((resolveFix_evolves hM h h0).encoded ..).setSect fun hi => (hs hi).encoded ..
    case align =>
      cases hr
      unfold stepAlign
      split
      · exact (h.split ..).setSect fun hi => ((hs hi).split _ true).congr rfl rfl
      · exact h.setSect fun hi => (hs hi).congr rfl rfl
    case cfi => cases hr; exact h.same rfl rfl rfl rfl rfl rfl

theorem run_evolves {t : Target} {evs : List Event} {st st' : AState} (h : run t st evs = .ok st') :
    Evolves t (evs.flatMap Event.mentions) st st' :=
  run_induct (fun ev hev _ _ => step_evolves (fun _ hn => List.mem_flatMap.2 ⟨ev, hev, hn⟩)) .refl h

theorem Inv.run {t : Target} {evs : List Event} {st st' : AState} (h : Inv st) (hr : run t st evs = .ok st') : Inv st' :=
  (run_evolves hr).inv h

theorem Inv.assembleChunks {t : Target} {chunks : List (List Event)} {st st' : AState} (h : Inv st)
    (hr : assembleChunks t st chunks = .ok st') : Inv st' :=
  assembleChunks_induct (fun _ _ _ h hp => h.of_sects (by rw [(precreate_ok.1 hp).2]; rfl)) (fun _ _ _ => Inv.run) h hr

/-- the proxy bookkeeping of `_resolve_symbol` and `emit_instruction`: the allocator's next number is
above every proxy, and edges and undefined symbols lead to allocated proxies only (C12: `streaming_fresh`) -/
def Fresh (st : AState) : Prop :=
  (∀ p ∈ st.proxies, p < st.next) ∧
  (∀ e ∈ st.cfg, ∀ p, e.dst = .proxy p → p ∈ st.proxies) ∧
  (∀ x ∈ st.undefs, x.2 ∈ st.proxies)

theorem Fresh.empty : Fresh ({} : AState) := ⟨by simp, by simp, by simp⟩

theorem Fresh.next_unused {st : AState} (h : Fresh st) :
    st.next ∉ st.proxies ∧ (∀ e ∈ st.cfg, e.dst ≠ .proxy st.next) ∧ (∀ x ∈ st.undefs, x.2 ≠ st.next) := by
  obtain ⟨h1, h2, h3⟩ := h
  have hn : st.next ∉ st.proxies := fun hm => Nat.lt_irrefl _ (h1 _ hm)
  exact ⟨hn, fun e he hd => hn (h2 e he _ hd), fun x hx hd => hn (hd ▸ h3 x hx)⟩

theorem Fresh.alloc {st st' : AState} (h : Fresh st) (us : List (String × Nat)) (hus : ∀ x ∈ us, x.2 = st.next)
    (hp : st'.proxies = st.proxies ++ [st.next]) (hc : st'.cfg = st.cfg) (hu : st'.undefs = st.undefs ++ us)
    (hn : st'.next = st.next + 1) : Fresh st' := by
  obtain ⟨h1, h2, h3⟩ := h
  simp only [Fresh, hp, hc, hu, hn, List.mem_append, List.mem_singleton]
  refine ⟨?_, fun e he p hd => .inl (h2 e he p hd), ?_⟩
  · rintro p (hp' | rfl)
    · exact Nat.lt_succ_of_lt (h1 p hp')
    · exact Nat.lt_succ_self _
  · rintro x (hx | hx)
    · exact .inl (h3 x hx)
    · exact .inr (hus x hx)

theorem Evolves.fresh {t : Target} {M : List String} {st st' : AState} (he : Evolves t M st st') (h : Fresh st) : Fresh st' := by
  induction he with
  | refl => exact h
  | undef _ n _ _ ih => exact ih.alloc [(n, _)] (by simp) rfl rfl rfl rfl
  | proxy _ ih => exact ih.alloc [] (by simp) rfl rfl (by simp [allocProxy]) rfl
  | other _ _ hu hp hn hc _ ih =>
    obtain ⟨h1, h2, h3⟩ := ih
    refine ⟨fun p hp' => Nat.lt_of_lt_of_le (h1 p (hp ▸ hp')) hn, fun e he p hd => ?_, fun x hx => hp ▸ h3 x (hu ▸ hx)⟩
    rw [hp]
    rcases hc e he with he | he
    · exact h2 e he p hd
    · rcases he p hd with hp' | hp'
      · exact hp'
      · obtain ⟨x, hx, rfl⟩ := List.mem_map.1 hp'
        exact h3 x hx

def allNames (st : AState) : List String := namesOf st.locals ++ namesOf st.undefs

/-- the assembler holds one symbol per name, none under a name of the target module
(C13: `one_name_one_symbol`) -/
def NamesOk (t : Target) (st : AState) : Prop :=
  (allNames st).Nodup ∧ ∀ n ∈ allNames st, t.moduleSyms.any (·.1 == n) = false

theorem NamesOk.empty (t : Target) : NamesOk t {} := ⟨List.nodup_nil, fun _ h => absurd h List.not_mem_nil⟩

theorem NamesOk.add {t : Target} {st st' : AState} {ns : List String} (h : NamesOk t st) (hnd : ns.Nodup)
    (hk : ∀ n ∈ ns, Unknown t st n) (hp : (allNames st').Perm (ns ++ allNames st)) : NamesOk t st' := by
  refine ⟨hp.nodup_iff.2 (List.nodup_append.2 ⟨hnd, h.1, fun a ha b hb hab => ?_⟩), fun x hx => ?_⟩
  · subst hab
    exact (List.mem_append.1 hb).elim (hk a ha).1 (hk a ha).2.1
  · rcases List.mem_append.1 (hp.mem_iff.1 hx) with hx | hx
    · exact any_fst_false.2 (hk x hx).2.2
    · exact h.2 x hx

theorem Evolves.names {t : Target} {M : List String} {st st' : AState} (he : Evolves t M st st') (h : NamesOk t st) :
    NamesOk t st' := by
  induction he with
  | refl => exact h
  | undef _ n _ hk ih =>
    refine ih.add (List.nodup_cons.2 ⟨List.not_mem_nil, List.nodup_nil⟩) (fun m hm => List.mem_singleton.1 hm ▸ hk) ?_
    simp only [allNames, allocUndef, namesOf, List.map_append, List.map_cons, List.map_nil, ← List.append_assoc]
    exact List.perm_append_singleton _ _
  | proxy _ ih => exact ih
  | other _ hl hu _ _ _ _ ih => unfold NamesOk allNames at *; rw [hl, hu]; exact ih

theorem precreate_names {t : Target} {evs : List Event} {st st' : AState} (h : NamesOk t st) (hr : precreate t st evs = .ok st') :
    NamesOk t st' := by
  obtain ⟨⟨hnd, hk⟩, rfl⟩ := precreate_ok.1 hr
  refine h.add hnd hk ?_
  simp only [allNames, withLocals, namesOf, List.map_append]
  rw [← namesOf_newLocals st.locals.length evs, namesOf]
  rw [← List.append_assoc]
  exact List.perm_append_comm.append_right _

theorem assembleChunks_names {t : Target} {chunks : List (List Event)} {st st' : AState} (h : NamesOk t st)
    (hr : assembleChunks t st chunks = .ok st') : NamesOk t st' :=
  assembleChunks_induct (fun _ _ _ => precreate_names) (fun _ _ _ h hr => (run_evolves hr).names h) h hr

/-- streaming leaves the labels alone, and whether a name it does not mention is unknown -/
theorem Evolves.unknown {t : Target} {M : List String} {st st' : AState} (he : Evolves t M st st') :
    st'.locals = st.locals ∧ ∀ n, n ∉ M → (Unknown t st' n ↔ Unknown t st n) := by
  induction he with
  | refl => exact ⟨rfl, fun _ _ => .rfl⟩
  | undef _ m hm _ ih =>
    refine ⟨ih.1, fun n hn => Iff.trans ?_ (ih.2 n hn)⟩
    have hne : n ≠ m := fun h => hn (h ▸ hm)
    simp only [Unknown, allocUndef, namesOf, List.map_append, List.map_cons, List.map_nil, List.mem_append, List.mem_singleton,
      hne, or_false]
  | proxy _ ih => exact ih
  | other _ hl hu _ _ _ _ ih => unfold Unknown at *; rw [hl, hu]; exact ih

end GtirbVerif.Asm
