/-!
Facts about `if`, `foldl`, `Except` and lists that do not mention the models; the proof modules of
every engine draw on them.
-/

universe u

namespace GtirbVerif

/-- Walking a long `if … else if …` chain with this, one guard at a time, is linear in its depth;
`split` on the whole chain is exponential. -/
theorem ite_eq_iff {α} {c : Prop} [Decidable c] {a b r : α} :
    (if c then a else b) = r ↔ c ∧ a = r ∨ ¬c ∧ b = r := by
  split <;> simp [*]

/-- One check of such a chain that was passed: the refusal `a` is not the result `r` (`hne` is `nofun` when the two
are different constructors), so the guard was false and the rest of the chain produced `r`. -/
theorem passed_guard {α} {c : Prop} [Decidable c] {a b r : α} (h : (if c then a else b) = r) (hne : a ≠ r) :
    ¬c ∧ b = r :=
  (ite_eq_iff.mp h).resolve_left fun hc => hne hc.2

theorem foldl_inv {σ β} (P : σ → Prop) (f : σ → β → σ) (h : ∀ s a, P s → P (f s a)) (l : List β) (s : σ)
    (hs : P s) : P (l.foldl f s) :=
  List.foldlRecOn l f hs (fun s hs a _ => h s a hs)

theorem foldl_obs {α : Sort u} {σ β} (π : σ → α) (f : σ → β → σ) (h : ∀ s a, π (f s a) = π s) (l : List β) (s : σ) :
    π (l.foldl f s) = π s :=
  foldl_inv (fun x => π x = π s) f (fun x a hx => (h x a).trans hx) l s rfl

theorem ite_obs {α : Sort u} {σ} (π : σ → α) {c : Prop} [Decidable c] {a b : σ} {x : α} (ha : π a = x) (hb : π b = x) :
    π (if c then a else b) = x := by
  split <;> assumption

theorem map_eq_self {α} {f : α → α} {l : List α} (h : ∀ x ∈ l, f x = x) : l.map f = l :=
  (List.map_congr_left h).trans (List.map_id' l)

theorem not_mem_filter {α} {p : α → Bool} {a : α} {l : List α} (h : p a = false) : a ∉ l.filter p :=
  fun hm => by have := (List.mem_filter.mp hm).2; simp [h] at this

/-- the models write `set.add` on a list like this -/
theorem mem_addNew {α} [DecidableEq α] (edges : List α) (e x : α) :
    x ∈ (if e ∈ edges then edges else edges ++ [e]) ↔ x ∈ edges ∨ x = e := by
  by_cases h : e ∈ edges
  · rw [if_pos h]; exact ⟨Or.inl, fun hx => hx.elim id (· ▸ h)⟩
  · rw [if_neg h]; simp

theorem nodup_addNew {α} [DecidableEq α] {edges : List α} (h : edges.Nodup) (e : α) :
    (if e ∈ edges then edges else edges ++ [e]).Nodup := by
  split
  · exact h
  · rename_i hin
    rw [List.nodup_append]
    refine ⟨h, by simp, ?_⟩
    intro a ha c hc
    simp only [List.mem_singleton] at hc
    subst hc
    intro hac; subst hac; exact hin ha

theorem foldl_max_spec (l : List Nat) (a : Nat) :
    a ≤ l.foldl max a ∧ (∀ x ∈ l, x ≤ l.foldl max a) ∧ (l.foldl max a = a ∨ l.foldl max a ∈ l) := by
  induction l generalizing a with
  | nil => exact ⟨Nat.le_refl _, (fun _ hx => nomatch hx), .inl rfl⟩
  | cons y ys ih =>
    obtain ⟨h1, h2, h3⟩ := ih (max a y)
    refine ⟨Nat.le_trans (Nat.le_max_left a y) h1, fun x hx => ?_, ?_⟩
    · rcases List.mem_cons.mp hx with rfl | hx
      · exact Nat.le_trans (Nat.le_max_right a x) h1
      · exact h2 x hx
    · rcases h3 with h | h
      · -- nothing behind `y` was larger: the maximum is `a` or `y`
        rw [List.foldl_cons, h]
        rcases Nat.le_total a y with hay | hay
        · rw [Nat.max_eq_right hay]
          exact .inr List.mem_cons_self
        · exact .inl (Nat.max_eq_left hay)
      · exact .inr (List.mem_cons_of_mem _ h)

/-- the models of `utils.align_address` round up like this (stack alignment in `CallPatch`, padding in
`join_byte_intervals`) -/
theorem roundUp_spec (x a : Nat) (ha : 0 < a) :
    (x + a - 1) / a * a % a = 0 ∧ x ≤ (x + a - 1) / a * a ∧ (x + a - 1) / a * a < x + a := by
  have h1 := Nat.div_add_mod (x + a - 1) a
  have h2 := Nat.mod_lt (x + a - 1) ha
  rw [Nat.mul_comm] at h1
  exact ⟨Nat.mul_mod_left _ _, by omega, by omega⟩

end GtirbVerif

/-- a `for` loop whose body may raise is written in the models as a fold over `Except` that passes an
error on unchanged -/
theorem List.foldl_error {ε σ α} (f : Except ε σ → α → Except ε σ) (hf : ∀ e x, f (.error e) x = .error e)
    (l : List α) (e : ε) : l.foldl f (.error e) = .error e := by
  induction l with
  | nil => rfl
  | cons x xs ih => rw [List.foldl_cons, hf, ih]

theorem Except.bind_eq_ok {ε α β} {x : Except ε α} {f : α → Except ε β} {b : β} :
    x >>= f = .ok b ↔ ∃ a, x = .ok a ∧ f a = .ok b := by
  cases x <;> simp [bind, Except.bind]

theorem Except.map_bind {ε α β γ} (x : Except ε α) (f : α → Except ε β) (g : β → γ) :
    (x >>= f).map g = x >>= fun a => (f a).map g := by
  cases x <;> rfl

/-- Membership of a pair with the second components compared first.  For a table of names and
numbers this is what makes evaluation by the kernel affordable: equality of strings is what it
pays for, and this way it is asked only beside an equal number. -/
theorem List.contains_snd_first {α β} [BEq α] [BEq β] (l : List (α × β)) (p : α × β) :
    l.contains p = l.any (fun q => p.2 == q.2 && p.1 == q.1) := by
  induction l with
  | nil => rfl
  | cons q l ih =>
    simp only [List.contains_cons, List.any_cons, ih]
    show (p.1 == q.1 && p.2 == q.2 || _) = _
    rw [Bool.and_comm]
