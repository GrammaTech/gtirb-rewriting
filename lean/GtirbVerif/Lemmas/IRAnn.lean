import GtirbVerif.Lemmas.IRSyms

/-!
# What split / join / remove / edit write to the offset-keyed tables (model side of C04 and C08)

An entry of an offset-keyed aux table is keyed by a block or a byte interval plus a displacement; its
*place* (`IR.entryPos`) is (byte interval, offset inside it).  Each operation turns the tables into one
function of the old ones: `splitOmaps` / `splitCfi`, `joinOmaps` / `joinCfi`, a filter, the key shift of
`edit_byte_interval`.  That the re-keying of split and join moves no entry is proved in Props/C04.lean
from `splitBlock_posAt` and `joinBlocks_posAt` (Lemmas/IRSyms.lean).
-/
namespace GtirbVerif.IR
open GtirbVerif.Adt (CfgNode Label Edge)

def IR.entryPos (ir : IR) (el : Elem) (k : Nat) : Option (Nat × Nat) :=
  match el with
  | .interval i => some (i, k)
  | .block b => (ir.block? b).bind (fun blk => blk.bi.map (fun i => (i, blk.off + k)))

theorem splitBlock_omaps {ir ir' : IR} {b off nb : Nat} {added : Bool}
    (h : ir.splitBlock b off = .ok (ir', nb, added)) :
    ir'.aux.omaps = splitOmaps ir.aux.omaps b nb off ∧ ir'.aux.cfi = splitCfi ir.aux.cfi b nb off := by
  obtain ⟨blk, sect, _, _, _, _, r, hr, _, rfl⟩ := splitBlock_ok h
  have hc : r.1.core = ((ir.splitBlocks blk nb off).splitSyms b nb).core :=
    hr ▸ splitCodeIf_obs _ core_graphFree.cfg core_funcsFree ..
  rw [orderInsertAfter_aux]
  have ho := core_omaps hc
  have hf := core_cfi hc
  exact ⟨congrArg (splitOmaps · b nb off) ho, congrArg (splitCfi · b nb off) hf⟩

theorem joinBlocks_omaps {ir ir' : IR} {id1 id2 : Nat} {b1 b2 : Block}
    (h : ir.joinBlocks id1 id2 = .ok ir') (h1 : ir.block? id1 = some b1) (h2 : ir.block? id2 = some b2) :
    ir'.aux.omaps = joinOmaps ir.aux.omaps b1.id b1.size id2 ∧ ir'.aux.cfi = joinCfi ir.aux.cfi b1.id b1.size id2 := by
  obtain ⟨_, sect, _, rfl⟩ := joinBlocks_ok h h1 h2
  have hc := joinCodeIf_obs _ core_graphFree.cfg core_funcsFree (ir.joinSyms b1 id2) b2.isCode b1 id2 b2.size
  rw [setBlock_aux, orderRemove_aux, setBlock_aux]
  have ho := core_omaps hc
  have hf := core_cfi hc
  exact ⟨congrArg (joinOmaps · b1.id b1.size id2) ho, congrArg (joinCfi · b1.id b1.size id2) hf⟩

theorem removeStages_omaps (x : IR) (blk : Block) (t c : Bool) (px p n : Option Nat) :
    (x.removeStages blk t c px p n).aux.omaps =
      x.aux.omaps.map (fun (name, entries) => (name, entries.filter (fun (el, _, _) => el != Elem.block blk.id))) := by
  -- `_remove_aux_data_entries` is the only stage that writes the offset tables
  have tail : ∀ y : IR, (((y.removeOutEdges blk).removeAuxEntries blk).removeCfi blk.id (x.requiredCfi blk) p n
      (x.isCodeBlockId p) (x.isCodeBlockId n)).aux.omaps = y.aux.omaps.map _ :=
    fun y => congrArg (List.map _) (core_omaps (removeOutEdges_core y blk))
  cases c
  · exact tail x
  · rw [removeStages_true, tail, removeEntrypoints_obs (·.aux.omaps) (fun _ _ _ _ _ _ => rfl),
      core_omaps (removeFunctions_core _ _ _ _), core_omaps (removeInEdges_core _ _ _ _ _)]
    rfl

theorem removeBlock_omaps {ir ir' : IR} {b : Nat} {px r : Bool} {blk : Block}
    (h : ir.removeBlock b px = .ok (ir', r)) (hb : ir.block? b = some blk) :
    ir'.aux.omaps = ir.aux.omaps.map (fun (name, entries) =>
      (name, entries.filter (fun (el, _, _) => el != Elem.block b))) := by
  obtain ⟨sect, _, _, rfl⟩ := removeBlock_ok h hb
  cases r
  · rw [cond_false, keepEmpty_aux, removeStages_omaps, core_omaps (withProxy_core _ _), block?_id hb]
  · rw [cond_true, setBlock_aux, orderRemove_aux, removeStages_omaps, core_omaps (withProxy_core _ _), block?_id hb]

/-! ### edit_byte_interval: the symbolic expressions of the edited interval are shifted by `shiftKeys` (Props/C04) -/

/-- interval-keyed table entries of the edited interval are shifted the same way, all other
entries are untouched -/
theorem editInterval_omaps (ir : IR) (i off len : Nat) (content st : List Nat) (iv : Interval)
    (h : ir.interval? i = some iv) :
    (ir.editInterval i off len content st).aux.omaps = ir.aux.omaps.map (fun (name, entries) =>
      (name, entries.filterMap (fun (el, k, v) =>
        if el == Elem.interval i then
          if k < off then some (el, k, v)
          else if k ≥ off + len then some (el, k + content.length - len, v)
          else none
        else some (el, k, v)))) := by
  unfold IR.editInterval
  rw [h]

end GtirbVerif.IR
