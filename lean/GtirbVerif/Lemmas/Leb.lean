import GtirbVerif.Model.Dwarf.Leb

namespace GtirbVerif.Dwarf

/-- a byte below 128 ends the number -/
theorem ulebDec_last {b : Nat} (hb : b < 128) (bs : List Nat) : ulebDec (b :: bs) = some (b, 1, bs) := by
  rw [ulebDec, Nat.div_eq_of_lt hb, if_pos rfl, Nat.mod_eq_of_lt hb]

/-- a byte with the high bit set carries seven bits and the number goes on -/
theorem ulebDec_more {b : Nat} (hb : b < 128) (bs : List Nat) :
    ulebDec ((128 + b) :: bs) = (ulebDec bs).map fun r => (b + 128 * r.1, r.2.1 + 1, r.2.2) := by
  rw [ulebDec, Nat.add_div_left b (by omega), Nat.div_eq_of_lt hb, Nat.add_mod_left, Nat.mod_eq_of_lt hb,
    if_neg (by decide)]
  cases ulebDec bs <;> rfl

theorem ulebDec_ulebEnc (n : Nat) (rest : List Nat) :
    ulebDec (ulebEnc n ++ rest) = some (n, (ulebEnc n).length, rest) := by
  fun_induction ulebEnc n with
  | case1 n h =>
    rw [List.singleton_append, ulebDec_last (Nat.mod_lt n (by omega)), Nat.mod_eq_of_lt (by omega)]
    rfl
  | case2 n h ih =>
    rw [List.cons_append, ulebDec_more (Nat.mod_lt n (by omega)), ih, Option.map_some, Nat.mod_add_div]
    rfl

theorem ulebEnc_lt (n : Nat) : ∀ b ∈ ulebEnc n, b < 256 := by
  fun_induction ulebEnc n with
  | case1 n h => exact List.forall_mem_singleton.mpr (by omega)
  | case2 n h ih => exact List.forall_mem_cons.mpr ⟨by omega, ih⟩

theorem ulebEnc_length_pos (n : Nat) : 0 < (ulebEnc n).length := by
  rw [ulebEnc]; split <;> simp

theorem ulebEnc_length_le (n k : Nat) : (ulebEnc n).length ≤ k + 1 ↔ n < 128 ^ (k + 1) := by
  fun_induction ulebEnc n generalizing k with
  | case1 n h =>
    have : 128 ^ 1 ≤ 128 ^ (k + 1) := Nat.pow_le_pow_right (by omega) (by omega)
    exact iff_of_true (by simp) (by omega)
  | case2 n h ih =>
    rw [List.length_cons, Nat.add_le_add_iff_right]
    cases k with
    | zero => have := ulebEnc_length_pos (n / 128); omega
    | succ k => rw [ih, Nat.pow_succ 128 (k + 1), Nat.div_lt_iff_lt_mul (by omega)]

/-- the test `leb128.i.encode` makes before it stops, on the quotient and on bit 6 -/
theorem slebEnc_stop (i : Int) :
    (i / 128 = 0 ∧ (i % 128).toNat / 64 % 2 = 0 ∨ i / 128 = -1 ∧ (i % 128).toNat / 64 % 2 ≠ 0) ↔
      -64 ≤ i ∧ i < 64 := by omega

/-- bit 6 of the final byte is the sign -/
theorem slebDec_last {b : Nat} (hb : b < 128) (bs : List Nat) :
    slebDec (b :: bs) = some (if b < 64 then (b : Int) else b - 128, 1, bs) := by
  have : b / 64 % 2 = 0 ↔ b < 64 := by omega
  simp only [slebDec, Nat.div_eq_of_lt hb, Nat.mod_eq_of_lt hb, this, if_pos]

theorem slebDec_more {b : Nat} (hb : b < 128) (bs : List Nat) :
    slebDec ((128 + b) :: bs) = (slebDec bs).map fun r => ((b : Int) + 128 * r.1, r.2.1 + 1, r.2.2) := by
  rw [slebDec, Nat.add_div_left b (by omega), Nat.div_eq_of_lt hb, Nat.add_mod_left, Nat.mod_eq_of_lt hb,
    if_neg (by decide)]
  cases slebDec bs <;> rfl

/-- the seven bits `slebEnc` writes, and with the quotient it goes on with they make up `i` -/
theorem low7_lt (i : Int) : (i % 128).toNat < 128 := by omega

theorem low7_add (i : Int) : ((i % 128).toNat : Int) + 128 * (i / 128) = i := by omega

theorem slebDec_slebEnc (i : Int) (rest : List Nat) :
    slebDec (slebEnc i ++ rest) = some (i, (slebEnc i).length, rest) := by
  fun_induction slebEnc i with
  | case1 i h =>
    rw [List.singleton_append, slebDec_last (low7_lt i)]
    rw [slebEnc_stop] at h
    congr 2
    split <;> omega
  | case2 i h ih =>
    rw [List.cons_append, slebDec_more (low7_lt i), ih, Option.map_some, low7_add]
    rfl

theorem slebEnc_lt (i : Int) : ∀ b ∈ slebEnc i, b < 256 := by
  fun_induction slebEnc i with
  | case1 i h => exact List.forall_mem_singleton.mpr (by omega)
  | case2 i h ih => exact List.forall_mem_cons.mpr ⟨by omega, ih⟩

theorem slebEnc_length_pos (i : Int) : 0 < (slebEnc i).length := by
  rw [slebEnc]; split <;> simp

theorem slebEnc_length_le (v : Int) (k : Nat) :
    (slebEnc v).length ≤ k + 1 ↔
      (-(64 * ((128 ^ k : Nat) : Int)) ≤ v ∧ v < 64 * ((128 ^ k : Nat) : Int)) := by
  fun_induction slebEnc v generalizing k with
  | case1 v h =>
    have : 0 < 128 ^ k := Nat.pow_pos (by omega)
    rw [slebEnc_stop] at h
    exact iff_of_true (by simp) (by omega)
  | case2 v h ih =>
    rw [List.length_cons, Nat.add_le_add_iff_right]
    rw [slebEnc_stop] at h
    cases k with
    | zero => have := slebEnc_length_pos (v / 128); omega
    | succ k =>
      rw [ih, Nat.pow_succ]
      generalize 128 ^ k = Q
      push_cast
      omega

theorem ulebEnc_length_le_slebEnc {v : Int} (h : 0 ≤ v) :
    (ulebEnc v.toNat).length ≤ (slebEnc v).length := by
  obtain ⟨k, hk⟩ : ∃ k, (slebEnc v).length = k + 1 :=
    ⟨(slebEnc v).length - 1, by have := slebEnc_length_pos v; omega⟩
  have h1 := (slebEnc_length_le v k).1 (by omega)
  have h2 := (ulebEnc_length_le v.toNat k).2 (by
    have : 128 ^ (k + 1) = 128 ^ k * 128 := Nat.pow_succ 128 k
    omega)
  omega

end GtirbVerif.Dwarf
