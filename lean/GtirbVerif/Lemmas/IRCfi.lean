import GtirbVerif.Lemmas.IRFields

/-!
# CFI procedures survive the removal of a block (model side of C08)

`procStep` is the procedure bookkeeping of the CFI evaluator: `.cfi_startproc` only outside a
procedure, everything else only inside, `.cfi_endproc` closes.  Whatever directives
`_required_cfi_directives` decides to keep, the kept stream opens and closes procedures exactly
like the block's full stream: no procedure is lost, duplicated, left open or closed twice.
-/
namespace GtirbVerif.IR

/-- procedure bookkeeping: `some true` inside, `some false` outside, `none` = CFIStateError -/
def procStep : Option Bool → CfiDir → Option Bool
  | some false, d => if d.name == ".cfi_startproc" then some true else none
  | some true, d =>
    if d.name == ".cfi_startproc" then none
    else if d.name == ".cfi_endproc" then some false
    else some true
  | none, _ => none

def procRun (s : Option Bool) (ds : List CfiDir) : Option Bool := ds.foldl procStep s

theorem procRun_append (s : Option Bool) (a b : List CfiDir) : procRun s (a ++ b) = procRun (procRun s a) b := by
  unfold procRun; rw [List.foldl_append]

theorem procRun_none (ds : List CfiDir) : procRun none ds = none := by
  unfold procRun
  induction ds with
  | nil => rfl
  | cons d ds ih => simpa [List.foldl_cons, procStep] using ih

theorem procRun_append_some {s : Option Bool} {a b : List CfiDir} {t' : Bool} (h : procRun s (a ++ b) = some t') :
    ∃ m, procRun s a = some m ∧ procRun (some m) b = some t' := by
  rw [procRun_append] at h
  cases hm : procRun s a with
  | none => rw [hm, procRun_none] at h; cases h
  | some m => exact ⟨m, rfl, hm ▸ h⟩

theorem procStep_some {t t' : Bool} {d : CfiDir} (h : procStep (some t) d = some t') :
    if d.name == ".cfi_startproc" then t = false ∧ t' = true else t = true ∧ t' = !(d.name == ".cfi_endproc") := by
  cases t <;> unfold procStep at h <;> dsimp only at h
  · cases hs : d.name == ".cfi_startproc" <;> rw [hs] at h
    · cases h
    · exact ⟨rfl, (Option.some.inj h).symm⟩
  · cases hs : d.name == ".cfi_startproc" <;> rw [hs] at h
    · rw [if_neg Bool.false_ne_true] at h ⊢
      refine ⟨rfl, ?_⟩
      cases he : d.name == ".cfi_endproc" <;> rw [he] at h <;> exact (Option.some.inj h).symm
    · cases h

/-- the invariant of the accumulators `(results, procedure_directives)` after a prefix that took
the evaluator from `s` to `t`: with no procedure pending the results did the same; a pending procedure
began in the block, outside every other, and is still open -/
def ReqInv (s t : Bool) : List CfiDir × List CfiDir → Prop
  | (R, []) => procRun (some s) R = some t
  | (R, Q) => procRun (some s) R = some false ∧ t = true ∧ procRun (some false) Q = some true

theorem requiredStep_inv (s t t' : Bool) (a : List CfiDir × List CfiDir × Bool) (d : CfiDir)
    (h : ReqInv s t (a.1, a.2.1)) (hd : procStep (some t) d = some t') :
    ReqInv s t' ((requiredStep a d).1, (requiredStep a d).2.1) := by
  obtain ⟨R, Q, i⟩ := a
  -- `hd` is the step by which the stream that receives `d` grows
  have snoc : ∀ (u : Bool) (l : List CfiDir), procRun (some u) l = some t → procRun (some u) (l ++ [d]) = some t' :=
    fun u l hl => by rw [procRun_append, hl]; exact hd
  have hk := procStep_some hd
  unfold requiredStep
  dsimp only
  cases hs : d.name == ".cfi_startproc" <;> rw [hs] at hk
  · obtain ⟨rfl, ht'⟩ := hk
    rw [if_neg Bool.false_ne_true]
    cases he : d.name == ".cfi_endproc" <;> rw [he] at ht' <;> subst ht'
    · -- any other directive goes where the output currently goes, or is dropped
      rw [if_neg Bool.false_ne_true]
      cases (i || structuralCfi.contains d.name)
      · exact h
      · cases Q with
        | nil => exact snoc s R h
        | cons q Q => exact ⟨h.1, rfl, snoc false (q :: Q) h.2.2⟩
    · -- `.cfi_endproc` closes the procedure; one that began in the block is dropped as a whole
      rw [if_pos rfl]
      cases Q with
      | nil => exact snoc s R h
      | cons q Q => exact h.1
  · -- `.cfi_startproc`: accepted outside only, so nothing is pending
    obtain ⟨rfl, rfl⟩ := hk
    rw [if_pos rfl]
    cases Q with
    | nil => exact ⟨h, rfl, hd⟩
    | cons q Q => cases h.2.1

theorem requiredSteps_inv : ∀ (ds : List CfiDir) (s t t' : Bool) (a : List CfiDir × List CfiDir × Bool),
    ReqInv s t (a.1, a.2.1) → procRun (some t) ds = some t' →
    ReqInv s t' ((ds.foldl requiredStep a).1, (ds.foldl requiredStep a).2.1) := by
  intro ds
  induction ds with
  | nil =>
    intro s t t' a h hr
    cases hr
    exact h
  | cons d ds ih =>
    intro s t t' a h hr
    obtain ⟨m, hm, hr⟩ := procRun_append_some (a := [d]) hr
    exact ih s m t' _ (requiredStep_inv s t m a d h hm) hr

theorem requiredGroups_inv : ∀ (gs : List (List CfiDir)) (s t t' : Bool) (acc : List CfiDir × List CfiDir),
    ReqInv s t acc → procRun (some t) gs.flatten = some t' → ReqInv s t' (gs.foldl requiredGroup acc) := by
  intro gs
  induction gs with
  | nil =>
    intro s t t' acc h hr
    cases hr
    exact h
  | cons g gs ih =>
    intro s t t' acc h hr
    rw [List.flatten_cons] at hr
    obtain ⟨m, hm, hr⟩ := procRun_append_some hr
    -- the flag "in the group of `.cfi_startproc`" starts afresh with every group and is no part of the invariant
    exact ih s m t' (requiredGroup acc g) (requiredSteps_inv g s t m (acc.1, acc.2, false) h hm) hr

end GtirbVerif.IR
