import GtirbVerif.Lemmas.IRBatch
import GtirbVerif.Lemmas.Splice

/-!
# The loop over the requests of a block, and over all blocks of a module

During a rewrite every block has a byte interval of its own (`prepare_for_rewriting`).  The loop over the
requests of one block touches, in the block table, only blocks of that interval (`Frame`) - so the block
another request list was registered for is still where it was, with the bytes it had.
At the end of the file `Carried P`: an invariant the five block primitives carry is carried by the clean-up,
`insertSplit` and `delete`.
-/
namespace GtirbVerif.IR
open GtirbVerif.Adt (CfgNode Label Edge)
open GtirbVerif.Listing GtirbVerif.Batch

/-- non-empty blocks of other intervals keep their entry in the block table, unchanged.  (An
*empty* block in front of a wholly deleted block may be removed along with it - `delete` looks
at the previous block of the section, which during a rewrite lies in another interval.) -/
def Frame (i : Nat) (a b : IR) : Prop :=
  ∀ c blk j, a.block? c = some blk → blk.bi = some j → j ≠ i → blk.size ≠ 0 → b.block? c = some blk

theorem Frame.refl (i : Nat) (a : IR) : Frame i a a := fun _ _ _ h _ _ _ => h

theorem Frame.trans {i : Nat} {a b c : IR} (h1 : Frame i a b) (h2 : Frame i b c) : Frame i a c :=
  fun k blk j hk hj hne hs => h2 k blk j (h1 k blk j hk hj hne hs) hj hne hs

theorem Frame.of_blocks {i : Nat} {a b : IR} (h : b.blocks = a.blocks) : Frame i a b :=
  fun c blk _ hc _ _ _ => by rw [block?_congr h]; exact hc

theorem setBlock_frame (i : Nat) (ir : IR) (nb : Block) (hs : Stays i ir nb.id) : Frame i ir (ir.setBlock nb) := by
  intro c blk j hc hj hne _
  rw [block?_setBlock]
  by_cases hcn : c = nb.id
  · exact absurd (hs.bi_eq (hcn ▸ hc) hj) hne
  · rw [if_neg hcn]; exact hc

theorem append_frame (i : Nat) (ir ir' : IR) (extra : List Block) (h : ir'.blocks = ir.blocks ++ extra) :
    Frame i ir ir' :=
  fun c blk _ hc _ _ _ => by rw [block?_append h, hc]; rfl

theorem splitBlock_frame {i : Nat} {ir ir' : IR} {b off nb : Nat} {added : Bool}
    (h : ir.splitBlock b off = .ok (ir', nb, added)) (hin : In i ir b) : Frame i ir ir' := by
  have ⟨blk, hb, _⟩ := hin
  obtain rfl := block?_id hb
  exact (setBlock_frame i ir { blk with size := off } hin.stays).trans (append_frame i _ _ _ (splitBlock_blocks h hb).2)

theorem joinBlocks_frame {i : Nat} {ir ir' : IR} {id1 id2 : Nat} (h : ir.joinBlocks id1 id2 = .ok ir')
    (hin1 : In i ir id1) (hin2 : In i ir id2) : Frame i ir ir' := by
  have ⟨b1, h1, _⟩ := hin1
  have ⟨b2, h2, _⟩ := hin2
  obtain rfl := block?_id h1
  obtain rfl := block?_id h2
  -- two writes, under the ids of block1 and block2; the first keeps block2 where it is
  have k1 : Keeps ir (ir.setBlock { b1 with size := b1.size + b2.size }) := setBlock_keeps ir _ b1 h1 (Or.inl rfl)
  exact ((setBlock_frame i ir { b1 with size := b1.size + b2.size } hin1.stays).trans
    (setBlock_frame i _ { b2 with bi := none } (k1.in hin2).stays)).trans (Frame.of_blocks (joinBlocks_syms_blocks h h1 h2).2.2)

theorem removeBlock_frame {i : Nat} {ir ir' : IR} {b : Nat} {px r : Bool}
    (h : ir.removeBlock b px = .ok (ir', r)) (hin : In i ir b) : Frame i ir ir' := by
  obtain ⟨blk, hb, hi⟩ := hin
  exact (setBlock_frame i ir _ (In.stays ⟨blk, (removeBlock_record hb r).1, hi⟩)).trans (Frame.of_blocks (removeBlock_blocks h hb))

/-- an empty block may be removed from any interval: `Frame` speaks of the non-empty ones -/
theorem removeBlock_frame_empty {i : Nat} {ir ir' : IR} {b : Nat} {px r : Bool}
    (h : ir.removeBlock b px = .ok (ir', r)) (hz : ir.sizeOr1 b = 0) : Frame i ir ir' := by
  intro c blk _ hc _ _ hs
  by_cases hcb : c = b
  · unfold IR.sizeOr1 at hz
    rw [← hcb, hc] at hz
    exact absurd hz hs
  · rw [removeBlock_other h hcb]; exact hc

theorem map_frame {i : Nat} {ir ir' : IR} (f : Block → Block) (hid : ∀ x, (f x).id = x.id)
    (hfix : ∀ c blk j, ir.block? c = some blk → blk.bi = some j → j ≠ i → f blk = blk)
    (h : ir'.blocks = ir.blocks.map f) : Frame i ir ir' :=
  fun c blk j hc hj hne _ => by rw [block?_map f hid h, hc, Option.map_some, hfix c blk j hc hj hne]

theorem editInterval_frame (ir : IR) (i off len : Nat) (c st : List Nat) : Frame i ir (ir.editInterval i off len c st) := by
  obtain ⟨f, hf, hid, _, hfix⟩ := editInterval_map ir i off len c st
  exact map_frame f hid (fun _ blk j _ hj hne => hfix blk (by rw [hj]; exact fun he => hne (Option.some.inj he))) hf

theorem placePatchBlocks_frame {i : Nat} (ir : IR) (tb : List Block) (base : Nat)
    (hin : ∀ c ∈ tb.map (·.id), In i ir c) : Frame i ir (ir.placePatchBlocks tb i base) := by
  obtain ⟨g, hg, hid, ho, _⟩ := placePatchBlocks_map ir tb i base
  refine map_frame g hid (fun c blk j hc hj hne => ho blk (fun hm => hne ?_)) hg
  exact (hin c (by rw [← block?_id hc]; exact hm)).stays.bi_eq hc hj

/-! `IdsBelow`, `In`, `Touches` and `Frame` have the same premises and need the same bookkeeping (which blocks
are `In i` when a primitive runs on them), so each operation carries them together. -/

theorem cleanup_table {i : Nat} {ir ir' : IR} {bl : List Nat} {last : Nat}
    (h : ir.cleanup bl = .ok (ir', last)) (hin : ∀ c ∈ bl, In i ir c) :
    (Touches ir ir' ∧ Frame i ir ir') ∧ last ∈ bl :=
  cleanup_induct (P := fun x => Touches ir x ∧ Frame i ir x)
    (fun hs hj hp =>
      ⟨hp.1.trans (joinBlocks_touches hj),
       hp.2.trans (joinBlocks_frame hj (hp.1.1.in (hin _ (hs.subset List.mem_cons_self)))
        (hp.1.1.in (hin _ (hs.subset (List.mem_cons_of_mem _ List.mem_cons_self)))))⟩)
    (fun hc hr hp => ⟨hp.1.trans (removeBlock_touches hr), hp.2.trans (removeBlock_frame hr (hp.1.1.in (hin _ hc)))⟩)
    h ⟨Touches.refl _, Frame.refl _ _⟩

theorem insertSplit_table {i : Nat} {ir ir' : IR} {b off repl endB : Nat} {added : Bool}
    (h : ir.insertSplit b off repl = .ok (ir', endB, added)) (hin : In i ir b) (hI : IdsBelow ir) :
    IdsBelow ir' ∧ In i ir' b ∧ In i ir' endB ∧ Frame i ir ir' := by
  obtain ⟨ir1, e0, hs1, hcase⟩ := insertSplit_ok h
  have hI1 := splitBlock_idsBelow hs1 hI
  have hb1 : In i ir1 b := (splitBlock_keeps hs1).in hin
  have he1 : In i ir1 e0 := splitBlock_new_in hs1 hin hI
  have f1 := splitBlock_frame hs1 hin
  rcases hcase with ⟨_, rfl, rfl⟩ | ⟨_, ir2, a2, d, hs2, hr⟩
  · have t := connectEmptyTail_touches ir1 endB
    exact ⟨t.idsBelow hI1, t.1.in hb1, t.1.in he1, f1.trans (Frame.of_blocks (connectEmptyTail_obs _ blocks_graphFree.cfg ..))⟩
  · have tt := connectEmptyTail_touches ir2 endB
    have t : Touches ir2 ir' := tt.trans (removeBlock_touches hr)
    have k2 := splitBlock_keeps hs2
    exact ⟨t.idsBelow (splitBlock_idsBelow hs2 hI1), t.1.in (k2.in hb1), t.1.in (splitBlock_new_in hs2 he1 hI1),
      (f1.trans (splitBlock_frame hs2 he1)).trans ((Frame.of_blocks (connectEmptyTail_obs _ blocks_graphFree.cfg ..)).trans
        (removeBlock_frame hr (tt.1.in (k2.in he1))))⟩

theorem insertSplit_ne {ir ir' : IR} {b off repl endB : Nat} {added : Bool}
    (h : ir.insertSplit b off repl = .ok (ir', endB, added)) (hI : IdsBelow ir) (hb : ir.block? b ≠ none) : b ≠ endB := by
  obtain ⟨ir1, e0, hs1, hcase⟩ := insertSplit_ok h
  rcases hcase with ⟨_, rfl, _⟩ | ⟨_, ir2, a2, d, hs2, _⟩
  · exact splitBlock_new_ne hs1 hI b hb
  · exact splitBlock_new_ne hs2 (splitBlock_idsBelow hs1 hI) b ((splitBlock_keeps hs1).block hb)

/-- new blocks take their ids from the counter -/
theorem splitBlock_fresh {ir ir' : IR} {b off nb : Nat} {added : Bool} (h : ir.splitBlock b off = .ok (ir', nb, added))
    {c : Nat} (hn : ir.block? c = none) (hlt : c < ir.next) : ir'.block? c = none := by
  rw [block?_none_iff, splitBlock_ids h, List.mem_append, List.mem_singleton]
  rintro (hm | rfl)
  · exact (block?_none_iff ir c).mp hn hm
  · exact Nat.lt_irrefl _ hlt

theorem insertSplit_fresh {ir ir2 : IR} {b off repl endB : Nat} {added : Bool}
    (hs : ir.insertSplit b off repl = .ok (ir2, endB, added)) {c : Nat} (hn : ir.block? c = none) (hlt : c < ir.next) :
    ir2.block? c = none := by
  obtain ⟨ir1, e0, hs1, hcase⟩ := insertSplit_ok hs
  have h1 := splitBlock_fresh hs1 hn hlt
  rcases hcase with ⟨_, _, rfl⟩ | ⟨_, ir3, a2, d, hs2, hr⟩
  · exact (connectEmptyTail_touches ir1 e0).fresh h1
  · exact ((connectEmptyTail_touches ir3 endB).trans (removeBlock_touches hr)).fresh
      (splitBlock_fresh hs2 h1 (by rw [splitBlock_next hs1]; exact Nat.lt_succ_of_lt hlt))

/-- the list `insert` hands to the clean-up names pairwise different blocks: the edited block, the patch's new
ones and the end block the split returned (`Carried.cleanup` asks for this) -/
theorem insert_cleanup_nodup {ir ir2 : IR} {b off repl endB : Nat} {added : Bool} {T : List Nat}
    (hs : ir.insertSplit b off repl = .ok (ir2, endB, added)) (hI : IdsBelow ir) (hb : ir.block? b ≠ none)
    (he2 : ir2.block? endB ≠ none) (hnd : T.Nodup) (hnew : ∀ c ∈ T, ir.block? c = none ∧ c < ir.next) :
    ([b] ++ T ++ [endB]).Nodup := by
  have hbe : b ≠ endB := insertSplit_ne hs hI hb
  have hbT : b ∉ T := fun hm => hb (hnew b hm).1
  have heT : endB ∉ T := fun hm => he2 (insertSplit_fresh hs (hnew _ hm).1 (hnew _ hm).2)
  rw [List.append_assoc, List.singleton_append, List.nodup_cons]
  refine ⟨?_, List.nodup_append.mpr ⟨hnd, List.nodup_cons.mpr ⟨List.not_mem_nil, List.nodup_nil⟩, ?_⟩⟩
  · intro hm
    rcases List.mem_append.mp hm with hm | hm
    · exact hbT hm
    · exact hbe (List.mem_singleton.mp hm)
  · intro x hx y hy hxy
    exact heT ((List.mem_singleton.mp hy) ▸ hxy ▸ hx)

/-- **`delete` returns a block of the interval it edited, or a detached one** (or none), keeps the ids below the
counter and leaves the non-empty blocks of the other intervals alone -/
theorem delete_table {i : Nat} {ir ir' : IR} {b off len : Nat} {px : Bool} {r : Option Nat}
    (h : ir.delete b off len px = .ok (ir', r)) (hin : In i ir b) (hI : IdsBelow ir) :
    IdsBelow ir' ∧ (∀ last, r = some last → In i ir' last) ∧ Frame i ir ir' := by
  obtain ⟨blk, j, hb, hbi, hcase⟩ := delete_ok h
  obtain rfl := hin.stays.bi_eq hb hbi
  rcases hcase with ⟨_, rfl, rfl⟩ | ⟨ir3, e2, a, last, hs, hc, rfl⟩ | ⟨rfl, ir1, d, hr, hcase⟩
  · exact ⟨hI, fun _ hl => by cases hl; exact hin, Frame.refl _ _⟩
  · obtain ⟨hI3, hb3, he3, f3⟩ := insertSplit_table hs hin hI
    have tE := editInterval_touches ir3 j (blk.off + off) len [] [b]
    have hinE : ∀ c ∈ [b, e2], In j (ir3.editInterval j (blk.off + off) len [] [b]) c :=
      List.forall_mem_cons.mpr ⟨tE.1.in hb3, List.forall_mem_singleton.mpr (tE.1.in he3)⟩
    obtain ⟨⟨tc, fc⟩, hl⟩ := cleanup_table hc hinE
    refine ⟨(tE.trans tc).idsBelow hI3, fun l hl' => ?_, (f3.trans (editInterval_frame _ _ _ _ _ _)).trans fc⟩
    cases hl'
    exact tc.1.in (hinE _ hl)
  · have t1 : Touches ir (ir1.editInterval j (blk.off + off) len [] [b]) :=
      (removeBlock_touches hr).trans (editInterval_touches _ _ _ _ _ _)
    have f1 : Frame j ir (ir1.editInterval j (blk.off + off) len [] [b]) :=
      (removeBlock_frame hr hin).trans (editInterval_frame _ _ _ _ _ _)
    rcases hcase with rfl | ⟨d3, hz, hr3⟩
    · exact ⟨t1.idsBelow hI, fun _ hl => (by cases hl), f1⟩
    · -- an *empty* previous block (of another interval) may go too
      exact ⟨(t1.trans (removeBlock_touches hr3)).idsBelow hI, fun _ hl => (by cases hl),
        f1.trans (removeBlock_frame_empty hr3 hz)⟩

theorem insertPlace_ids (ir ir2 : IR) (blk : Block) (i b off repl endB : Nat) (added : Bool) (p : Patch) :
    (ir.insertPlace ir2 blk i b off repl endB added p).ids = ir2.ids ++ p.text.blocks.map (·.id) := by
  rw [IR.insertPlace, placePatchBlocks_ids, (editInterval_touches ..).2.1]
  unfold IR.ids
  rw [insertStitch_blocks, List.map_append, addReturnEdgesForPatchCalls_blocks, List.map_map]; rfl

theorem insertPlace_table {i : Nat} (ir ir2 : IR) (blk : Block) (b off repl endB : Nat) (added : Bool) (p : Patch)
    (hb : In i ir2 b) (he : In i ir2 endB) (hfr : ∀ c ∈ p.text.blocks.map (·.id), ir2.block? c = none) :
    (∀ c ∈ [b] ++ p.text.blocks.map (·.id) ++ [endB], In i (ir.insertPlace ir2 blk i b off repl endB added p) c) ∧
    Frame i ir2 (ir.insertPlace ir2 blk i b off repl endB added p) := by
  rw [IR.insertPlace]
  -- the stitch adds the patch's blocks to the table, detached; the edit and the placement rewrite blocks in place
  have hSb : ((ir2.addReturnEdgesForPatchCalls (ir.patchCfg blk b p).1).1.insertStitch p.text.blocks b endB added).blocks =
      ir2.blocks ++ p.text.blocks.map (fun x => { x with bi := none }) := by
    rw [insertStitch_blocks, addReturnEdgesForPatchCalls_blocks]
  generalize (ir2.addReturnEdgesForPatchCalls (ir.patchCfg blk b p).1).1.insertStitch p.text.blocks b endB added = S at hSb ⊢
  have kS := append_keeps _ _ _ hSb
  have tE := editInterval_touches S i (blk.off + off) repl p.text.data [b]
  have hinE : ∀ c ∈ [b] ++ p.text.blocks.map (·.id) ++ [endB],
      In i (S.editInterval i (blk.off + off) repl p.text.data [b]) c := by
    intro c hc
    simp only [List.mem_append, List.mem_singleton] at hc
    apply tE.1.in
    rcases hc with (rfl | hc) | rfl
    · exact kS.in hb
    · exact append_detached_in hSb hc (hfr c hc)
    · exact kS.in he
  refine ⟨fun c hc => placePatchBlocks_in _ _ _ _ (hinE c hc), ?_⟩
  exact ((append_frame _ _ _ _ hSb).trans (editInterval_frame _ _ _ _ _ _)).trans
    (placePatchBlocks_frame _ _ _ (fun c hc => hinE c (by
      simp only [List.mem_append, List.mem_singleton]; exact Or.inl (Or.inr hc))))

theorem insertTables_table (ir ir2 x : IR) (blk : Block) (i sect b off : Nat) (p : Patch) :
    (ir.insertTables ir2 x blk i sect b off p).blocks = x.blocks ∧ (ir.insertTables ir2 x blk i sect b off p).next = x.next := by
  rw [IR.insertTables]
  exact ⟨by rw [addPatchFunctions_blocks, ← addPatchExprs_blocks x i (blk.off + off) p.text.symExprs]; rfl,
    by rw [addPatchFunctions_next, ← addPatchExprs_next x i (blk.off + off) p.text.symExprs]; rfl⟩

/-- **`insert` returns a block of the interval it edited, or a detached one**, keeps the ids below the counter and
leaves the non-empty blocks of the other intervals alone.  `hnew`: the patch's blocks are new objects - their ids
name no block and lie below the counter, so no split takes one of them. -/
theorem insert_table {i : Nat} {ir ir' : IR} {b off repl last : Nat} {p : Patch}
    (h : ir.insert b off repl p = .ok (ir', last)) (hin : In i ir b) (hI : IdsBelow ir)
    (hnew : ∀ c ∈ p.text.blocks.map (·.id), ir.block? c = none ∧ c < ir.next) :
    IdsBelow ir' ∧ In i ir' last ∧ Frame i ir ir' := by
  obtain ⟨blk, j, sect, ir2, endB, added, ir12, hb, hbi, hsect, hs, ho, hc⟩ := insert_ok h
  obtain rfl := hin.stays.bi_eq hb hbi
  obtain ⟨hI2, hb2, he2, f2⟩ := insertSplit_table hs hin hI
  obtain ⟨hinP, fP⟩ := insertPlace_table ir ir2 blk b off repl endB added p hb2 he2
    (fun c hc => insertSplit_fresh hs (hnew c hc).1 (hnew c hc).2)
  have hPids := insertPlace_ids ir ir2 blk j b off repl endB added p
  have hPn : (ir.insertPlace ir2 blk j b off repl endB added p).next = ir2.next :=
    insertPlace_obs IR.next (fun _ _ => rfl) (fun _ _ _ _ => rfl) ..
  generalize ir.insertPlace ir2 blk j b off repl endB added p = P at ho hinP fP hPids hPn
  obtain ⟨hXb, hXn⟩ := insertTables_table ir ir2 P blk j sect b off p
  generalize ir.insertTables ir2 P blk j sect b off p = X at ho hXb hXn
  obtain ⟨extra, hOb, hOi, hOn⟩ := addOthers_ext ho
  obtain ⟨hBb, hBn, hBp⟩ := bumpNext_facts ir12 p
  -- between the placement and the clean-up the table only gains the blocks of the patch's other sections
  have hfin : (ir12.bumpNext p).blocks = P.blocks ++ extra := by rw [hBb, hOb, hXb]
  have kB := append_keeps _ _ _ hfin
  obtain ⟨⟨tc, fc⟩, hl⟩ := cleanup_table hc (fun c hcm => kB.in (hinP c hcm))
  refine ⟨tc.idsBelow ?_, tc.1.in (kB.in (hinP _ hl)), ((f2.trans fP).trans (append_frame _ _ _ _ hfin)).trans fc⟩
  intro k hk
  unfold IR.ids at hk hPids
  rw [hfin, List.map_append, hPids] at hk
  have hge : ir2.next ≤ (ir12.bumpNext p).next := by omega
  rcases List.mem_append.mp hk with hk | hk
  · rcases List.mem_append.mp hk with hk | hk
    · exact Nat.lt_of_lt_of_le (hI2 k hk) hge
    · exact hBp k (by unfold Patch.ids; simp only [List.mem_append]; exact Or.inl (Or.inl (Or.inl hk)))
  · obtain ⟨y, hy, rfl⟩ := List.mem_map.mp hk
    exact hBp _ (hOi y hy)

theorem loopInsert_table {i : Nat} {ir ir' : IR} {func : Option Nat} {ab : Block} {a ao repl last : Nat} {p : Patch}
    (h : ir.loopInsert func ab a ao repl p = .ok (ir', last)) (hin : In i ir a) (hI : IdsBelow ir)
    (hnew : ∀ c ∈ p.text.blocks.map (·.id), ir.block? c = none ∧ c < ir.next) :
    IdsBelow ir' ∧ In i ir' last ∧ Frame i ir ir' := by
  obtain ⟨ir1, hins, hlb, _, hln⟩ := loopInsert_same h
  obtain ⟨hI1, hin1, f1⟩ := insert_table hins hin hI hnew
  exact ⟨hI1.mono (ids_of_blocks hlb) (Nat.le_of_eq hln.symm), (Keeps.of_blocks hlb).in hin1, f1.trans (Frame.of_blocks hlb)⟩

/-- `actual_offset` is the request's position in the interval, seen from wherever the actual block starts:
`actual_block.offset + actual_offset = block.offset + offset + total_insert_len` -/
theorem actualOffset_pos {origOff : Nat} {ab : Block} {total : Int} {m : Mod}
    (h : ¬ actualOffset origOff ab total m.off < 0) :
    ab.off + (actualOffset origOff ab total m.off).toNat = posOf origOff total m.toLEdit := by
  unfold posOf actualOffset Mod.toLEdit at *
  dsimp only at h ⊢
  omega

/-- **The loop of `_apply_modifications` is the running-offset splice.**  Whatever blocks
`insert` and `delete` return along the way, request `k` is carried out at interval position
`block.offset + offset_k + total_insert_len`, every one in the byte interval of the block the
requests were registered for; no other interval the module had changes, the non-empty blocks of the other
intervals are left alone and the ids stay below the counter. -/
theorem applyMods_bytes (origOff i : Nat) (func : Option Nat) : ∀ (ms : List Mod) (ir ir' : IR) (actual : Option Nat)
    (total : Int) (cur : List Nat),
    IR.applyMods origOff func ir actual total ms = .ok ir' →
    (∀ a, actual = some a → In i ir a) → IdsBelow ir → NewBlocks origOff func ir actual total ms →
    ir.bytesOf i = some cur →
    ir'.bytesOf i = some (seqSplice origOff cur total (ms.map Mod.toLEdit)) ∧
      (∀ j, j ≠ i → ir.bytesOf j ≠ none → ir'.bytesOf j = ir.bytesOf j) ∧ IdsBelow ir' ∧ Frame i ir ir' := by
  intro ms
  induction ms with
  | nil =>
    intro ir ir' actual total cur h _ hI _ hcur
    unfold IR.applyMods at h
    cases h
    exact ⟨hcur, fun _ _ _ => rfl, hI, Frame.refl _ _⟩
  | cons m ms ih =>
    intro ir ir' actual total cur h hact hI hnew hcur
    obtain ⟨a, ab, rfl, hab, hao, hstep⟩ := applyMods_cons_ok h
    have hin := hact a rfl
    obtain ⟨iv, hiv, rfl⟩ := Option.map_eq_some_iff.mp hcur
    have hpos := actualOffset_pos hao
    simp only [List.map_cons, seqSplice]
    rw [← hpos]
    rcases hstep with ⟨o, repl, p, ir1, last, rfl, hl, h⟩ | ⟨o, len, px, ir1, r, rfl, hd, h⟩
    · obtain ⟨hfresh, _, hnext⟩ := hnew.ins hab
      -- the function-table step on top of `insert` changes no bytes
      obtain ⟨ir0, hins, _, hli, _⟩ := loopInsert_same hl
      obtain ⟨hb1, hb2⟩ := insert_bytes hins hab (insert_ok_bi hins hin hab) hiv
      rw [← bytesOf_congr hli] at hb1
      obtain ⟨hI1, hin1, f1⟩ := loopInsert_table hl hin hI hfresh
      obtain ⟨r1, r2, r3, r4⟩ := ih ir1 ir' (some last) _ _ h (fun a' ha' => by cases ha'; exact hin1)
        hI1 (hnext ir1 last hl) hb1
      refine ⟨r1, fun j hj hne => ?_, r3, f1.trans r4⟩
      have hj1 : ir1.bytesOf j = ir.bytesOf j := (bytesOf_congr hli j).trans (hb2 j hj hne)
      rw [r2 j hj (by rw [hj1]; exact hne), hj1]
    · obtain ⟨hb1, hb2⟩ := delete_bytes hd hab (delete_ok_bi hd hin hab) hiv
      obtain ⟨hI1, hin1, f1⟩ := delete_table hd hin hI
      obtain ⟨r1, r2, r3, r4⟩ := ih ir1 ir' r _ _ h hin1 hI1 (hnew.del hab ir1 r hd) hb1
      refine ⟨?_, fun j hj hne => ?_, r3, f1.trans r4⟩
      · rw [r1]
        simp [Mod.toLEdit, Mod.len, Mod.bytes, Mod.off]
      · rw [r2 j hj (by rw [hb2 j hj]; exact hne), hb2 j hj]

/-- the running-offset splice of `applyMods_bytes` against the specification: of interval `i` only the range of
block `b` changes, and it becomes the listing's `spliceSpec` of the block's bytes -/
theorem applyMods_listing {ir ir' : IR} {b i : Nat} {blk : Block} {bytes : List Nat} {ms : List Mod} {func : Option Nat}
    (h : ir.applyMods blk.off func (some b) 0 ms = .ok ir')
    (hb : ir.block? b = some blk) (hbi : blk.bi = some i) (hby : ir.bytesOf i = some bytes)
    (hfit : blk.off + blk.size ≤ bytes.length)
    (hI : IdsBelow ir) (hnew : NewBlocks blk.off func ir (some b) 0 ms)
    (hd : Disjoint blk.size 0 (ms.map Mod.toLEdit)) :
    ir'.bytesOf i = some (bytes.take blk.off ++
        spliceSpec ((bytes.drop blk.off).take blk.size) 0 (ms.map Mod.toLEdit) ++
        bytes.drop (blk.off + blk.size)) ∧
    (∀ j, j ≠ i → ir.bytesOf j ≠ none → ir'.bytesOf j = ir.bytesOf j) ∧ IdsBelow ir' ∧ Frame i ir ir' := by
  have hact : ∀ a, some b = some a → In i ir a :=
    fun a ha => by cases ha; exact ⟨blk, hb, Or.inl hbi⟩
  obtain ⟨r1, r2, r3, r4⟩ := applyMods_bytes blk.off i func ms ir ir' (some b) 0 bytes h hact hI hnew hby
  exact ⟨by rw [r1, seqSplice_window bytes blk.off blk.size _ hfit hd], r2, r3, r4⟩

def ivOf (ir : IR) (r : BlockMods) : Option Nat := (ir.block? r.block).bind (·.bi)

theorem ivOf_eq_some {ir : IR} {r : BlockMods} {blk : Block} {i : Nat} (hb : ir.block? r.block = some blk) (hbi : blk.bi = some i) :
    ivOf ir r = some i := by
  unfold ivOf; rw [hb]; exact hbi

/-- what the listing says the interval of `r`'s block holds after `r`'s requests -/
def expected (ir : IR) (r : BlockMods) : Option (List Nat) :=
  match ir.block? r.block with
  | none => none
  | some blk =>
    match blk.bi with
    | none => none
    | some i =>
      match ir.bytesOf i with
      | none => none
      | some bytes => some (bytes.take blk.off ++
          spliceSpec ((bytes.drop blk.off).take blk.size) 0 (r.mods.map Mod.toLEdit) ++
          bytes.drop (blk.off + blk.size))

/-- the requests of `r` are well placed: a non-empty block inside the initialized bytes of its
interval, requests sorted and disjoint (what `resolve_offsets` establishes) -/
def ReqOk (ir : IR) (r : BlockMods) : Prop :=
  ∃ blk i bytes, ir.block? r.block = some blk ∧ blk.bi = some i ∧ blk.size ≠ 0 ∧ ir.bytesOf i = some bytes ∧
    blk.off + blk.size ≤ bytes.length ∧ Disjoint blk.size 0 (r.mods.map Mod.toLEdit)

/-- the patches of all request lists consist of new block objects when they are inserted -/
def NewBlocksAll : IR → List BlockMods → Prop
  | _, [] => True
  | ir, r :: rest =>
    match ir.block? r.block with
    | none => True
    | some blk =>
      NewBlocks blk.off r.func ir (some r.block) 0 r.mods ∧
      ∀ ir', ir.applyMods blk.off r.func (some r.block) 0 r.mods = .ok ir' → NewBlocksAll ir' rest

theorem NewBlocksAll.cons {ir : IR} {r : BlockMods} {rest : List BlockMods} {blk : Block} (hb : ir.block? r.block = some blk)
    (h : NewBlocksAll ir (r :: rest)) :
    NewBlocks blk.off r.func ir (some r.block) 0 r.mods ∧
    ∀ ir', ir.applyMods blk.off r.func (some r.block) 0 r.mods = .ok ir' → NewBlocksAll ir' rest := by
  unfold NewBlocksAll at h; rw [hb] at h; exact h

theorem ReqOk.start {ir : IR} {r : BlockMods} {blk : Block} (h : ReqOk ir r) (hb : ir.block? r.block = some blk) :
    ∃ i, blk.bi = some i ∧ ∀ a, some r.block = some a → In i ir a := by
  obtain ⟨blk', i, _, hb', hbi, _⟩ := h
  rw [hb] at hb'; cases hb'
  exact ⟨i, hbi, fun a ha => by cases ha; exact ⟨blk, hb, Or.inl hbi⟩⟩

theorem ReqOk.frame {i : Nat} {a b : IR} {r : BlockMods} (hf : Frame i a b)
    (hby : ∀ j, j ≠ i → a.bytesOf j ≠ none → b.bytesOf j = a.bytesOf j) (hok : ReqOk a r) (hne : ivOf a r ≠ some i) :
    ReqOk b r ∧ ivOf b r = ivOf a r ∧ expected b r = expected a r := by
  obtain ⟨blk, j, bytes, hb, hbi, hsz, hbytes, hfit, hd⟩ := hok
  have hji : j ≠ i := fun he => hne (by rw [ivOf_eq_some hb hbi, he])
  have hb' : b.block? r.block = some blk := hf _ blk j hb hbi hji hsz
  have hbytes' : b.bytesOf j = a.bytesOf j := hby j hji (by rw [hbytes]; exact Option.some_ne_none _)
  refine ⟨⟨blk, j, bytes, hb', hbi, hsz, hbytes'.trans hbytes, hfit, hd⟩, ?_, ?_⟩
  · unfold ivOf; rw [hb', hb]
  · unfold expected; rw [hb', hb]; simp only [hbi]; rw [hbytes']

/-- one round of `apply()`'s loop: the head request list makes its interval what the listing expects and leaves
every other interval; the request lists still to come find their blocks, intervals and expectations in `ir1`
as they were in `ir` -/
theorem applyAll_head {ir ir1 : IR} {r : BlockMods} {rest : List BlockMods} {blk : Block}
    (hb : ir.block? r.block = some blk)
    (hm : ir.applyMods blk.off r.func (some r.block) 0 r.mods = .ok ir1)
    (hI : IdsBelow ir) (hok : ∀ r' ∈ r :: rest, ReqOk ir r') (hnd : ((r :: rest).map (ivOf ir)).Nodup)
    (hn1 : NewBlocks blk.off r.func ir (some r.block) 0 r.mods) :
    ∃ i, ivOf ir r = some i ∧ ir1.bytesOf i = expected ir r ∧ ir1.bytesOf i ≠ none ∧
      (∀ j, j ≠ i → ir.bytesOf j ≠ none → ir1.bytesOf j = ir.bytesOf j) ∧ IdsBelow ir1 ∧
      ∀ r' ∈ rest, ivOf ir r' ≠ some i ∧ ReqOk ir1 r' ∧ ivOf ir1 r' = ivOf ir r' ∧ expected ir1 r' = expected ir r' := by
  obtain ⟨blk0, i, bytes, hb0, hbi, _, hby, hfit, hd⟩ := hok r List.mem_cons_self
  rw [hb] at hb0; cases hb0
  obtain ⟨s1, s2, s3, s4⟩ := applyMods_listing hm hb hbi hby hfit hI hn1 hd
  have hivr : ivOf ir r = some i := ivOf_eq_some hb hbi
  refine ⟨i, hivr, ?_, by rw [s1]; exact Option.some_ne_none _, s2, s3, fun r' hr' => ?_⟩
  · rw [s1]; unfold expected; rw [hb]; simp only [hbi, hby]
  · have hne : ivOf ir r' ≠ some i := fun he =>
      (List.nodup_cons.mp hnd).1 (by rw [hivr, ← he]; exact List.mem_map_of_mem hr')
    exact ⟨hne, ReqOk.frame s4 s2 (hok r' (List.mem_cons_of_mem _ hr')) hne⟩

/-- after the requests of the first block, the other request lists find what they were registered for -/
theorem applyAll_step {ir ir1 : IR} {r : BlockMods} {rest : List BlockMods} {blk : Block}
    (hb : ir.block? r.block = some blk)
    (hm : ir.applyMods blk.off r.func (some r.block) 0 r.mods = .ok ir1)
    (hI : IdsBelow ir) (hok : ∀ r' ∈ r :: rest, ReqOk ir r') (hnd : ((r :: rest).map (ivOf ir)).Nodup)
    (hn1 : NewBlocks blk.off r.func ir (some r.block) 0 r.mods) :
    IdsBelow ir1 ∧ (∀ r' ∈ rest, ReqOk ir1 r') ∧ (rest.map (ivOf ir1)).Nodup := by
  obtain ⟨i, _, _, _, _, hI1, hrest⟩ := applyAll_head hb hm hI hok hnd hn1
  refine ⟨hI1, fun r' hr' => (hrest r' hr').2.1, ?_⟩
  rw [List.map_congr_left (fun r' hr' => (hrest r' hr').2.2.1)]
  exact (List.nodup_cons.mp hnd).2

/-! `Carried P`: the five facts a whole-rewrite invariant is proved by, primitive by primitive; the clean-up,
`insertSplit` and `delete` carry `P` because they are made of the primitives. -/

structure Carried (P : IR → Prop) : Prop where
  split : ∀ {ir ir' : IR} {b off nb : Nat} {added : Bool}, ir.splitBlock b off = .ok (ir', nb, added) → IdsBelow ir → P ir → P ir'
  join : ∀ {ir ir' : IR} {a b : Nat}, ir.joinBlocks a b = .ok ir' → a ≠ b → P ir → P ir'
  remove : ∀ {ir ir' : IR} {b : Nat} {px r : Bool}, ir.removeBlock b px = .ok (ir', r) → P ir → P ir'
  tail : ∀ {ir : IR} (t : Nat), P ir → P (ir.connectEmptyTail t)
  edit : ∀ {ir : IR} (i off len : Nat) (c st : List Nat), P ir → P (ir.editInterval i off len c st)

variable {P : IR → Prop}

theorem Carried.cleanup (c : Carried P) {ir ir' : IR} {bl : List Nat} {last : Nat}
    (h : ir.cleanup bl = .ok (ir', last)) (hnd : bl.Nodup) (hp : P ir) : P ir' :=
  (cleanup_induct (fun hs hj => c.join hj fun he => (List.nodup_cons.mp (hnd.sublist hs)).1 (List.mem_singleton.mpr he))
    (fun _ hr => c.remove hr) h hp).1

theorem Carried.insertSplit (c : Carried P) {ir ir' : IR} {b off repl e : Nat} {a : Bool}
    (h : ir.insertSplit b off repl = .ok (ir', e, a)) (hI : IdsBelow ir) (hp : P ir) : P ir' := by
  obtain ⟨ir1, e0, hs1, hcase⟩ := insertSplit_ok h
  have p1 := c.split hs1 hI hp
  rcases hcase with ⟨_, _, rfl⟩ | ⟨_, ir2, a2, d, hs2, hr⟩
  · exact c.tail _ p1
  · exact c.remove hr (c.tail _ (c.split hs2 (splitBlock_idsBelow hs1 hI) p1))

theorem Carried.delete (c : Carried P) {ir ir' : IR} {b off len : Nat} {px : Bool} {r : Option Nat}
    (h : ir.delete b off len px = .ok (ir', r)) (hI : IdsBelow ir) (hp : P ir) : P ir' := by
  obtain ⟨blk, i, hb, hbi, hcase⟩ := delete_ok h
  rcases hcase with ⟨_, rfl, _⟩ | ⟨ir3, e2, a, last, hs, hc, _⟩ | ⟨_, ir1, d, hr, rfl | ⟨d3, _, hr3⟩⟩
  · exact hp
  · have hne : b ≠ e2 := insertSplit_ne hs hI (by rw [hb]; exact Option.some_ne_none _)
    exact c.cleanup hc (by simpa using hne)
      (c.edit _ _ _ _ _ (c.insertSplit hs hI hp))
  · exact c.edit _ _ _ _ _ (c.remove hr hp)
  · exact c.remove hr3 (c.edit _ _ _ _ _ (c.remove hr hp))

end GtirbVerif.IR
