import GtirbVerif.Spec.AdtSpec
import GtirbVerif.Lemmas.Basics

/-! `ReturnEdgeCache`: a `SetDict` (Python's `defaultdict(set)`) is read as a family of duplicate-free
sets that stores no empty one (`sdAt`, `SdOK`); `sdAdd` and `sdDiscard` then act on one set. -/

namespace GtirbVerif.Adt

theorem sdGet_sdPut (k k' : CfgNode) (v : List Edge) (d : SetDict) :
    sdGet k' (sdPut k v d) = if k' = k then some v else sdGet k' d := by
  induction d with
  | nil => simp [sdPut, sdGet, eq_comm]
  | cons p r ih =>
    by_cases hk : k' = k
    · subst hk
      by_cases ha : p.1 = k' <;> simp [sdPut, sdGet, ha, ih]
    · by_cases ha : p.1 = k <;> simp [sdPut, sdGet, ha, ih, hk, Ne.symm hk]

theorem sdGet_sdDel (k k' : CfgNode) (d : SetDict) :
    sdGet k' (sdDel k d) = if k' = k then none else sdGet k' d := by
  induction d with
  | nil => simp [sdDel, sdGet]
  | cons p r ih =>
    by_cases hk : k' = k
    · subst hk
      by_cases ha : p.1 = k' <;> simp [sdDel, sdGet, ha, ih]
    · by_cases ha : p.1 = k <;> simp [sdDel, sdGet, ha, ih, hk, Ne.symm hk]

/-- a set-valued index agrees with a predicate over the edge set -/
def IndexOK (idx : SetDict) (edges : List Edge) (p : Edge → Bool) : Prop :=
  ∀ b : CfgNode,
    (∀ e, e ∈ (sdGet b idx).getD [] ↔ (e ∈ edges ∧ p e = true ∧ e.src = b)) ∧
    ((sdGet b idx).isSome = true ↔ ∃ e, e ∈ edges ∧ p e = true ∧ e.src = b) ∧
    ((sdGet b idx).getD []).Nodup

/-! The middle clause of `IndexOK` (a key is present iff an edge is selected) is the first clause plus
"no key holds an empty set" (`indexOK_iff`), so the lemmas on `sdAdd`/`sdDiscard` compare memberships. -/

def sdAt (d : SetDict) (b : CfgNode) : List Edge := (sdGet b d).getD []

def SdOK (d : SetDict) : Prop := ∀ b, sdGet b d ≠ some [] ∧ (sdAt d b).Nodup

theorem sdGet_sdAdd (d : SetDict) (k b : CfgNode) (e : Edge) : sdGet b (sdAdd d k e) =
    if b = k then some (if e ∈ sdAt d k then sdAt d k else sdAt d k ++ [e]) else sdGet b d := by
  unfold sdAdd sdAt
  cases hg : sdGet k d with
  | none => simp [sdGet_sdPut]
  | some s =>
    by_cases hin : e ∈ s
    · simp only [hin, ↓reduceIte, Option.getD_some]
      split
      · subst b; exact hg
      · rfl
    · simp [hin, sdGet_sdPut]

theorem sdGet_sdDiscard (d : SetDict) (k b : CfgNode) (e : Edge) : sdGet b (sdDiscard d k e) =
    if b = k then
      if (sdAt d k).filter (· != e) = [] then none else some ((sdAt d k).filter (· != e))
    else sdGet b d := by
  unfold sdDiscard sdAt
  simp only [List.isEmpty_iff]
  split <;> simp [sdGet_sdDel, sdGet_sdPut]

theorem optNil {α} (l : List α) :
    (if l = [] then none else some l).getD [] = l ∧ (if l = [] then none else some l) ≠ some [] := by
  split <;> simp [*]

theorem mem_sdAt_sdAdd (d : SetDict) (k b : CfgNode) (e x : Edge) :
    x ∈ sdAt (sdAdd d k e) b ↔ x ∈ sdAt d b ∨ (b = k ∧ x = e) := by
  rw [sdAt, sdGet_sdAdd]
  split
  · subst b; rw [Option.getD_some, mem_addNew]; simp
  · simp [*, sdAt]

theorem SdOK.add {d : SetDict} (h : SdOK d) (k : CfgNode) (e : Edge) : SdOK (sdAdd d k e) := by
  intro b
  rw [sdAt, sdGet_sdAdd]
  split
  · exact ⟨fun h0 => List.ne_nil_of_mem ((mem_addNew _ e e).mpr (Or.inr rfl)) (Option.some.inj h0),
      nodup_addNew (h k).2 e⟩
  · exact h b

theorem mem_sdAt_sdDiscard (d : SetDict) (k b : CfgNode) (e x : Edge) :
    x ∈ sdAt (sdDiscard d k e) b ↔ x ∈ sdAt d b ∧ ¬ (b = k ∧ x = e) := by
  rw [sdAt, sdGet_sdDiscard]
  split
  · subst b; rw [(optNil _).1]; simp
  · simp [*, sdAt]

theorem SdOK.discard {d : SetDict} (h : SdOK d) (k : CfgNode) (e : Edge) : SdOK (sdDiscard d k e) := by
  intro b
  rw [sdAt, sdGet_sdDiscard]
  split
  · rw [(optNil _).1]; exact ⟨(optNil _).2, (h k).2.filter _⟩
  · exact h b

theorem indexOK_iff {idx : SetDict} {edges : List Edge} {p : Edge → Bool} :
    IndexOK idx edges p ↔
      SdOK idx ∧ ∀ b e, e ∈ sdAt idx b ↔ (e ∈ edges ∧ p e = true ∧ e.src = b) := by
  have key : ∀ b, ((sdGet b idx).isSome = true ↔ ∃ e, e ∈ sdAt idx b) ↔ sdGet b idx ≠ some [] := by
    intro b
    unfold sdAt
    cases sdGet b idx with
    | none => simp
    | some l => cases l <;> simp
  constructor
  · exact fun h => ⟨fun b => ⟨(key b).mp ((h b).2.1.trans (exists_congr (h b).1).symm), (h b).2.2⟩,
      fun b => (h b).1⟩
  · rintro ⟨h1, h2⟩ b
    exact ⟨h2 b, ((key b).mpr (h1 b).1).trans (exists_congr (h2 b)), (h1 b).2⟩

theorem indexOK_add {idx edges p} (h : IndexOK idx edges p) (e : Edge) :
    IndexOK (if p e then sdAdd idx e.src e else idx) (if e ∈ edges then edges else edges ++ [e]) p := by
  rw [indexOK_iff] at h ⊢
  refine ⟨?_, fun b x => ?_⟩
  · split
    · exact h.1.add _ _
    · exact h.1
  have : x ∈ sdAt (if p e then sdAdd idx e.src e else idx) b ↔
      x ∈ sdAt idx b ∨ (p e = true ∧ b = e.src ∧ x = e) := by
    split <;> simp [*, mem_sdAt_sdAdd]
  rw [this, mem_addNew, h.2]
  constructor
  · rintro (⟨h1, h2, h3⟩ | ⟨hp, rfl, rfl⟩)
    · exact ⟨Or.inl h1, h2, h3⟩
    · exact ⟨Or.inr rfl, hp, rfl⟩
  · rintro ⟨h1 | rfl, h2, h3⟩
    · exact Or.inl ⟨h1, h2, h3⟩
    · exact Or.inr ⟨h2, h3.symm, rfl⟩

theorem indexOK_discard {idx edges p} (h : IndexOK idx edges p) (e : Edge) :
    IndexOK (if p e then sdDiscard idx e.src e else idx) (edges.filter (· != e)) p := by
  rw [indexOK_iff] at h ⊢
  refine ⟨?_, fun b x => ?_⟩
  · split
    · exact h.1.discard _ _
    · exact h.1
  have : x ∈ sdAt (if p e then sdDiscard idx e.src e else idx) b ↔
      x ∈ sdAt idx b ∧ ¬ (p e = true ∧ b = e.src ∧ x = e) := by
    split <;> simp [*, mem_sdAt_sdDiscard]
  rw [this, h.2]
  simp only [List.mem_filter, bne_iff_ne, ne_eq]
  constructor
  · rintro ⟨⟨h1, h2, h3⟩, h4⟩
    exact ⟨⟨h1, fun hx => h4 ⟨hx ▸ h2, hx ▸ h3.symm, hx⟩⟩, h2, h3⟩
  · rintro ⟨⟨h1, h4⟩, h2, h3⟩
    exact ⟨⟨h1, h2, h3⟩, fun hx => h4 hx.2.2⟩

/-- what `ReturnEdgeCache` maintains: the CFG's edges are a set, and `_return_edges` /
`_proxy_return_edges` hold under each source exactly its return edges / those to a `ProxyBlock` -/
structure RetInv (c : RetCache) : Prop where
  nodup : c.edges.Nodup
  ret : IndexOK c.ret c.edges (fun e => e.isReturn)
  pret : IndexOK c.pret c.edges (fun e => e.isReturn && e.toProxy)

theorem retInv_empty : RetInv {} := by
  refine ⟨by simp, ?_, ?_⟩ <;> intro b <;> simp [sdGet]

theorem RetCache.add_eq (c : RetCache) (e : Edge) : c.add e =
    { edges := if e ∈ c.edges then c.edges else c.edges ++ [e],
      ret := if e.isReturn then sdAdd c.ret e.src e else c.ret,
      pret := if e.isReturn && e.toProxy then sdAdd c.pret e.src e else c.pret } := by
  unfold RetCache.add
  cases e.isReturn <;> cases e.toProxy <;> rfl

theorem RetCache.discard_eq (c : RetCache) (e : Edge) : c.discard e =
    { edges := c.edges.filter (· != e),
      ret := if e.isReturn then sdDiscard c.ret e.src e else c.ret,
      pret := if e.isReturn && e.toProxy then sdDiscard c.pret e.src e else c.pret } := by
  unfold RetCache.discard
  cases e.isReturn <;> cases e.toProxy <;> rfl

theorem retInv_add {c : RetCache} (h : RetInv c) (e : Edge) : RetInv (c.add e) :=
  c.add_eq e ▸ ⟨nodup_addNew h.nodup e, indexOK_add h.ret e, indexOK_add h.pret e⟩

theorem retInv_discard {c : RetCache} (h : RetInv c) (e : Edge) : RetInv (c.discard e) :=
  c.discard_eq e ▸ ⟨h.nodup.filter _, indexOK_discard h.ret e, indexOK_discard h.pret e⟩

theorem retInv_update {c : RetCache} (h : RetInv c) (es : List Edge) : RetInv (c.update es) :=
  foldl_inv RetInv RetCache.add (fun _ e h => retInv_add h e) es c h

theorem retInv_step {c : RetCache} (h : RetInv c) (op : RetOp) : RetInv (c.step op) := by
  cases op with
  | add e => exact retInv_add h e
  | discard e => exact retInv_discard h e
  | clear => exact retInv_empty
  | update es => exact retInv_update h es

theorem edges_add (c : RetCache) (e : Edge) : (c.add e).edges = cfgStep c.edges (.add e) := by
  rw [RetCache.add_eq]; rfl

theorem edges_discard (c : RetCache) (e : Edge) :
    (c.discard e).edges = cfgStep c.edges (.discard e) := by
  rw [RetCache.discard_eq]; rfl

theorem edges_update (c : RetCache) (es : List Edge) :
    (c.update es).edges = cfgStep c.edges (.update es) :=
  (List.foldl_hom RetCache.edges (H := fun c e => (edges_add c e).symm)).symm

theorem edges_step (c : RetCache) (op : RetOp) : (c.step op).edges = cfgStep c.edges op := by
  cases op with
  | add e => exact edges_add c e
  | discard e => exact edges_discard c e
  | clear => rfl
  | update es => exact edges_update c es

end GtirbVerif.Adt
