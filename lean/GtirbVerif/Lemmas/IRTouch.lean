import GtirbVerif.Model.IR.Modify
import GtirbVerif.Lemmas.Basics

/-!
# What each step of the IR model writes

An *observation* is any `π : IR → α` (a field, a tuple of fields, `IR.core`, a predicate).  For every
step that is a fold or a case distinction, the one lemma `step_obs` says: an observation that does not
read what the step writes has the same value before and after.  What the steps write falls into four
groups: the CFG (`CfgFree`), the CFG with the proxy set and the id counter (`GraphFree`), the function
tables (`FuncsFree`), the entry points (`EntryFree`); for a field each premise is `fun .. => rfl`.
Use them on a goal that shows the step (`rw [step_obs IR.order h]`): against
`π (((x.step ..).setBlock ..).orderRemove ..)` the unifier unfolds the step before it gives up.
-/
namespace GtirbVerif.IR
open GtirbVerif.Adt (CfgNode Label Edge)

universe u
variable {α : Sort u}

def CfgFree (π : IR → α) : Prop := ∀ (ir : IR) c, π { ir with cfg := c } = π ir
def GraphFree (π : IR → α) : Prop := ∀ (ir : IR) c n p, π { ir with cfg := c, next := n, proxies := p } = π ir

theorem GraphFree.cfg {π : IR → α} (h : GraphFree π) : CfgFree π := fun ir c => h ir c ir.next ir.proxies
theorem GraphFree.ids {π : IR → α} (h : GraphFree π) (ir : IR) (n : Nat) (p : List Nat) :
    π { ir with next := n, proxies := p } = π ir := h ir ir.cfg n p
def FuncsFree (π : IR → α) : Prop := ∀ (ir : IR) c fb fe fn,
  π { ir with fbb := c, aux := { ir.aux with funcBlocks := fb, funcEntries := fe, funcNames := fn } } = π ir

/-- `alignment` is among the entry points because `removeEntrypoints`, the step that writes them, also models
`_remove_alignment` -/
def EntryFree (π : IR → α) : Prop := ∀ (ir : IR) e i f s a,
  π { ir with entry := e, aux := { ir.aux with elfInit := i, elfFini := f, peSafeSeh := s, alignment := a } } = π ir

variable (π : IR → α)

theorem removeEntrypoints_obs (he : EntryFree π) (ir : IR) (blk : Block) (n : Option Nat) (nc : Bool) :
    π (ir.removeEntrypoints blk n nc) = π ir := by
  unfold IR.removeEntrypoints
  have step {c : Prop} [Decidable c] {x : IR} {e i f s a} : π (if c then
      { x with entry := e, aux := { x.aux with elfInit := i, elfFini := f, peSafeSeh := s, alignment := a } } else x) = π x :=
    ite_obs π (he ..) rfl
  exact (he ..).trans (step.trans (step.trans (step.trans step)))

theorem editInterval_obs
    (he : ∀ (ir : IR) iv b o, π { ir with intervals := iv, blocks := b, aux := { ir.aux with omaps := o } } = π ir)
    (ir : IR) (i off len : Nat) (c st : List Nat) : π (ir.editInterval i off len c st) = π ir := by
  unfold IR.editInterval
  split
  · rfl
  · exact he ir ..

theorem addPatchExprs_obs (hi : ∀ (ir : IR) iv, π { ir with intervals := iv } = π ir)
    (ir : IR) (i base : Nat) (ex : List (Nat × SymExpr)) : π (ir.addPatchExprs i base ex) = π ir := by
  unfold IR.addPatchExprs
  split
  · rfl
  · exact hi ..

theorem orderAppend_obs (ho : ∀ (ir : IR) o, π { ir with order := o } = π ir)
    (ir : IR) (s : Nat) (bs : List Nat) : π (ir.orderAppend s bs) = π ir := by
  unfold IR.orderAppend
  exact ite_obs π rfl (ho ..)

section cfg
variable (hc : CfgFree π)
include hc

theorem moveReturnEdges_obs (ir : IR) (ce : Edge) (ft : List Nat) (nf : Nat) :
    π (ir.moveReturnEdges ce ft nf) = π ir := by
  unfold IR.moveReturnEdges
  split
  · rfl
  · split
    · rfl
    · refine foldl_obs π _ (fun ir tb => foldl_obs π _ (fun ir e => ?_) _ _) _ _
      split
      · exact ite_obs π (hc _ _) rfl
      · rfl

theorem updateFallthrough_obs (ir : IR) (s t : Nat) : π (ir.updateFallthrough s t) = π ir := by
  unfold IR.updateFallthrough
  refine (hc _ _).trans (foldl_obs π _ (fun ir e => ?_) _ _)
  exact ite_obs π (moveReturnEdges_obs π hc _ _ _ _) (ite_obs π (hc _ _) rfl)

theorem addReturnEdgesToCallee_obs (ir : IR) (pcfg : List Edge) (f : Nat) (rt : CfgNode) :
    π (ir.addReturnEdgesToCallee pcfg f rt).1 = π ir := by
  unfold IR.addReturnEdgesToCallee
  refine foldl_obs (fun acc : IR × List Edge => π acc.1) _ (fun acc b => ?_) _ _
  exact ite_obs (fun acc : IR × List Edge => π acc.1) rfl (foldl_obs π _ (fun ir e => hc _ _) _ _)

theorem addReturnEdgesForPatchCalls_obs (ir : IR) (pcfg : List Edge) :
    π (ir.addReturnEdgesForPatchCalls pcfg).1 = π ir := by
  unfold IR.addReturnEdgesForPatchCalls
  refine foldl_obs (fun acc : IR × List Edge => π acc.1) _ (fun acc ce => ?_) _ _
  split
  · rfl
  · split
    · rfl
    · split
      · rfl
      · split
        · rfl
        · exact addReturnEdgesToCallee_obs π hc _ _ _ _

theorem splitEdgesMid_obs (ir : IR) (b nb : Nat) : π (ir.splitEdgesMid b nb) = π ir :=
  foldl_obs π _ (fun _ _ => hc _ _) _ _

theorem splitEdgesEnd_obs (ir : IR) (b nb : Nat) : π (ir.splitEdgesEnd b nb) = π ir :=
  foldl_obs π _ (fun _ _ => ite_obs π (moveReturnEdges_obs π hc _ _ _ _) (ite_obs π (hc _ _) rfl)) _ _

theorem connectEmptyTail_obs (ir : IR) (t : Nat) : π (ir.connectEmptyTail t) = π ir := by
  unfold IR.connectEmptyTail
  split
  · rfl
  · split
    · split
      · exact ite_obs π (hc _ _) rfl
      · rfl
    · rfl

theorem insertStitch_obs (ir : IR) (tb : List Block) (b e : Nat) (a : Bool) :
    π (ir.insertStitch tb b e a) = π { ir with blocks := ir.blocks ++ tb.map (fun x => { x with bi := none }) } := by
  unfold IR.insertStitch
  have h3 : ∀ x : IR, π (if a then x.updateFallthrough b ((tb.head?).getD default).id else x) = π x :=
    fun x => ite_obs π (updateFallthrough_obs π hc _ _ _) rfl
  exact ite_obs π ((updateFallthrough_obs π hc _ _ _).trans (h3 _)) (h3 _)

end cfg

theorem withProxy_obs (hn : ∀ (ir : IR) n p, π { ir with next := n, proxies := p } = π ir) (ir : IR) (t : Bool) :
    π (ir.withProxy t) = π ir := by
  unfold IR.withProxy; exact ite_obs π (hn ..) rfl

/-! `remove_return_edges_from_callee` only discards edges and, for a block `b` all of whose return edges went that
way, adds one to a fresh proxy; `_remove_outgoing_edges` does this for every call edge of the block and discards
its out-edges.  So what survives these two things survives both steps (`x`: the state when the loop reached `b`,
`x'`: after the discards). -/
section retEdges
variable {P : IR → Prop} (hdis : ∀ (x : IR) e, P x → P { x with cfg := cfgDiscard x.cfg e })
  (hnew : ∀ (x x' : IR) b, P x → x.returnEdgesOf b ≠ [] → P x' →
    P { x' with next := x'.next + 1, proxies := x'.proxies ++ [x'.next],
                cfg := cfgAdd x'.cfg { src := .block b, dst := .proxy x'.next, label := retLabel } })
include hdis hnew

theorem removeReturnEdgesFromCallee_induct (ir : IR) (ce : Edge) (ft : List Nat) (h : P ir) :
    P (ir.removeReturnEdgesFromCallee ce ft) := by
  unfold IR.removeReturnEdgesFromCallee
  split
  · exact h
  · split
    · exact h
    · refine foldl_inv P _ (fun x b hx => ?_) _ _ h
      extract_lets rets
      by_cases he : rets.isEmpty = true
      · rw [if_pos he]; exact hx
      · rw [if_neg he]
        -- name the result of the inner loop before it is taken apart: the update below mentions it once per field
        generalize hF : List.foldl _ (x, false) rets = F
        have hfold : P F.1 := by
          rw [← hF]
          refine foldl_inv (fun acc : IR × Bool => P acc.1) _ (fun acc e ha => ?_) _ _ hx
          split
          · split
            · exact hdis _ _ ha
            · exact ha
          · exact ha
        obtain ⟨x', remaining⟩ := F
        cases remaining
        · exact hnew x x' b hx (fun hh => he (by rw [show rets = [] from hh]; rfl)) hfold
        · exact hfold

theorem removeOutEdges_induct (ir : IR) (blk : Block) (h : P ir) : P (ir.removeOutEdges blk) := by
  unfold IR.removeOutEdges
  split
  · exact h
  · refine foldl_inv P _ (fun x e hx => hdis _ e ?_) _ _ h
    split
    · exact removeReturnEdgesFromCallee_induct hdis hnew x e _ hx
    · exact hx

end retEdges

section graph
variable (hg : GraphFree π)
include hg

theorem removeInEdges_obs (ir : IR) (blk : Block) (p n : Option Nat) (nc : Bool) :
    π (ir.removeInEdges blk p n nc) = π ir := by
  unfold IR.removeInEdges
  split
  · rfl
  · split
    · exact foldl_obs π _ (fun _ _ => hg.cfg _ _) _ _
    · split
      · exact foldl_obs π _ (fun _ _ => hg.cfg _ _) _ _
      · exact (foldl_obs π _ (fun _ _ => hg.cfg _ _) _ _).trans (hg ir ir.cfg _ _)

theorem removeOutEdges_obs (ir : IR) (blk : Block) : π (ir.removeOutEdges blk) = π ir :=
  removeOutEdges_induct (P := fun x => π x = π ir) (fun x _ hx => (hg.cfg x _).trans hx)
    (fun _ x' _ _ _ hx' => (hg x' _ _ _).trans hx') ir blk rfl

theorem keepEmpty_obs (ir : IR) (blk : Block) : π (ir.keepEmpty blk) = π (ir.setBlock { blk with size := 0 }) := by
  unfold IR.keepEmpty
  exact ite_obs π (hg _ _ _ _) rfl

end graph

section funcs
variable (hf : FuncsFree π)
include hf

theorem removeFunctionBlock_obs (ir : IR) (b : Nat) : π (ir.removeFunctionBlock b) = π ir := by
  unfold IR.removeFunctionBlock
  split
  · rfl
  · exact ite_obs π (hf _ _ _ _ _) (hf _ _ _ _ _)

theorem inheritFunction_obs (ir : IR) (a b : Nat) : π (ir.inheritFunction a b) = π ir := by
  unfold IR.inheritFunction; split
  · exact hf _ _ _ _ _
  · rfl

theorem removeFunctions_obs (ir : IR) (blk : Block) (n : Option Nat) (nc : Bool) :
    π (ir.removeFunctions blk n nc) = π ir := by
  unfold IR.removeFunctions
  split
  · rfl
  · split
    · rfl
    · exact (removeFunctionBlock_obs π hf _ _).trans (ite_obs π (hf _ _ _ _ _) rfl)

theorem addPatchFunctions_obs (ir : IR) (blk : Block) (tb : List Block) : π (ir.addPatchFunctions blk tb) = π ir := by
  unfold IR.addPatchFunctions
  split
  · split
    · exact foldl_obs π _ (fun _ _ => ite_obs π (hf _ _ _ _ _) rfl) _ _
    · rfl
  · rfl

end funcs

section code
variable (hc : CfgFree π) (hf : FuncsFree π)
include hc hf

omit hc hf in
theorem splitCode_split (x : IR) (b nb : Nat) (e : Bool) :
    ∃ y : IR, (x.splitCode b nb e).1 = y.inheritFunction b nb ∧ ∀ {α : Sort u} (π : IR → α), CfgFree π → π y = π x := by
  unfold IR.splitCode
  split
  · exact ⟨_, rfl, fun π hc => (hc _ _).trans (splitEdgesMid_obs π hc ..)⟩
  · exact ⟨_, rfl, fun π hc => (ite_obs π (hc _ _) rfl).trans (splitEdgesEnd_obs π hc ..)⟩

theorem splitCode_obs (ir : IR) (b nb : Nat) (e : Bool) : π (ir.splitCode b nb e).1 = π ir := by
  obtain ⟨y, he, h⟩ := splitCode_split ir b nb e
  rw [he]
  exact (inheritFunction_obs π hf _ _ _).trans (h π hc)

/-- as `split_block` takes the step: for a code block only -/
theorem splitCodeIf_obs (ir : IR) (c : Bool) (b nb : Nat) (e : Bool) :
    π (bif c then ir.splitCode b nb e else (ir, false)).1 = π ir := by
  cases c
  · rfl
  · exact splitCode_obs π hc hf ..

omit hc hf in
theorem joinCode_split (ir : IR) (b1 : Block) (id2 s2 : Nat) :
    ∃ i3 : IR, ir.joinCode b1 id2 s2 = i3.removeFunctionBlock id2 ∧
      ∀ {α : Sort u} (π : IR → α), CfgFree π → π i3 = π ir := by
  refine ⟨_, rfl, fun π hc => ?_⟩
  have dis : ∀ (l : List Edge) (x : IR), π (l.foldl (fun ir e => { ir with cfg := cfgDiscard ir.cfg e }) x) = π x :=
    fun l x => foldl_obs π _ (fun _ _ => hc _ _) l x
  have upd : ∀ (g : Edge → Edge) (l : List Edge) (x : IR), π (l.foldl (fun ir e => ir.updateEdge e (g e)) x) = π x :=
    fun g l x => foldl_obs π _ (fun _ _ => hc _ _) l x
  refine (ite_obs π (dis _ _) (upd _ _ _)).trans ((ite_obs π (upd _ _ _) (dis _ _)).trans ?_)
  exact foldl_obs π _ (fun _ _ => ite_obs π (hc _ _) rfl) _ _

theorem joinCode_obs (ir : IR) (b1 : Block) (id2 s2 : Nat) : π (ir.joinCode b1 id2 s2) = π ir := by
  obtain ⟨i3, he, h⟩ := joinCode_split ir b1 id2 s2
  rw [he]
  exact (removeFunctionBlock_obs π hf _ _).trans (h π hc)

theorem joinCodeIf_obs (ir : IR) (c : Bool) (b1 : Block) (id2 s2 : Nat) :
    π (bif c then ir.joinCode b1 id2 s2 else ir) = π ir := by
  cases c
  · rfl
  · exact joinCode_obs π hc hf ..

end code

end GtirbVerif.IR
