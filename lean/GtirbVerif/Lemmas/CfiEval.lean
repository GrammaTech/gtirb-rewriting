import GtirbVerif.Spec.CfiSpec
import GtirbVerif.Lemmas.Sorting

/-! The model's association lists, read through `absRow`, are the specification's total rule tables;
beside that, what C15 needs of the evaluator's errors and of `sorted`. -/
namespace GtirbVerif.CfiEval
open GtirbVerif.Dwarf GtirbVerif.CfiSpec

theorem getKey_setKey (k k' : Int) (v : Rule) (l : Regs) :
    getKey k' (setKey k v l) = if k' = k then some v else getKey k' l := by
  induction l with
  | nil => simp [setKey, getKey, eq_comm]
  | cons p r ih =>
    -- the head's key against `k`, the key asked for against `k`: each of the four cases computes
    by_cases h : p.1 = k <;> by_cases h2 : k' = k <;> simp_all [setKey, getKey, eq_comm (a := k)]

theorem getKey_eraseKey (k k' : Int) (l : Regs) :
    getKey k' (eraseKey k l) = if k' = k then none else getKey k' l := by
  induction l with
  | nil => simp [eraseKey, getKey]
  | cons p r ih =>
    by_cases h : p.1 = k <;> by_cases h2 : k' = k <;> simp_all [eraseKey, getKey, eq_comm (a := k)]

theorem absRow_set (cur : Row) (r : Int) (v : Rule) :
    absRow { cur with regs := setKey r v cur.regs } =
      { absRow cur with regs := upd (absRow cur).regs r (some v) } := by
  simp only [absRow, SRow.mk.injEq, and_true]
  funext k
  exact getKey_setKey r k v cur.regs

theorem absRow_erase (cur : Row) (r : Int) :
    absRow { cur with regs := eraseKey r cur.regs } =
      { absRow cur with regs := upd (absRow cur).regs r none } := by
  simp only [absRow, SRow.mk.injEq, and_true]
  funext k
  exact getKey_eraseKey r k cur.regs

theorem absRow_cfa (cur : Row) (c : Option Cfa) :
    absRow { cur with cfa := c } = { absRow cur with cfa := c } := rfl

theorem absRow_applyUpd (cur : Row) (u : Upd) :
    absRow (applyUpd cur u) = applyUpdS (absRow cur) u := by
  cases u with
  | setCfa e => rfl
  | setReg r rule => exact absRow_set cur r rule

theorem absRow_foldl (us : List Upd) (cur : Row) :
    absRow (us.foldl applyUpd cur) = us.foldl applyUpdS (absRow cur) :=
  (List.foldl_hom absRow fun r u => (absRow_applyUpd r u).symm).symm

theorem upd_self (f : Int → Option Rule) (r : Int) : upd f r (f r) = f := by
  funext k; simp only [upd]; split <;> simp_all

/-- `x` fails only with CFIStateError or ValueError -/
def Typed {α} (x : Except EvalErr α) : Prop :=
  ∀ e, x = .error e → e = .cfiState ∨ e = .valueError

theorem Typed.ok {α} (a : α) : Typed (.ok a : Except EvalErr α) := fun _ h => nomatch h

theorem Typed.cfiState {α} : Typed (.error .cfiState : Except EvalErr α) :=
  fun _ h => by cases h; exact .inl rfl

theorem Typed.valueError {α} : Typed (.error .valueError : Except EvalErr α) :=
  fun _ h => by cases h; exact .inr rfl

theorem Typed.bind {α β} {x : Except EvalErr α} {f : α → Except EvalErr β} (hx : Typed x)
    (hf : ∀ a, Typed (f a)) : Typed (x >>= f) := by
  cases x with
  | error e => intro e' h; cases h; exact hx e rfl
  | ok a => exact hf a

theorem typed_one (a : List Int) : Typed (one a) := by
  unfold one
  split
  · exact .ok _
  · exact .valueError

theorem typed_two (a : List Int) : Typed (two a) := by
  unfold two
  split
  · exact .ok _
  · exact .valueError

theorem typed_encodedPointer (a : List Int) (s : SymRef) : Typed (encodedPointer a s) := by
  refine (typed_one a).bind fun enc => ?_
  split
  · exact .ok _
  · cases s
    · exact .ok _
    · exact .valueError
    · exact .valueError

/-- escapes aside: their parser has errors of its own (`convErr`, `updOf`) -/
theorem stepIn_typed (et ct : Table) (abi : AbiParams) (s : Proc) (k : Kind)
    (args : List Int) (sym : SymRef) (hne : k ≠ .escape) :
    Typed (stepIn et ct abi s k args sym) := by
  cases k <;> simp only [stepIn]
  case escape => exact absurd rfl hne
  case startproc => exact .cfiState
  case endproc | rememberState => exact .ok _
  case personality | lsda => exact (typed_encodedPointer _ _).bind fun _ => .ok _
  case returnColumn | undefined | sameValue => exact (typed_one _).bind fun _ => .ok _
  case defCfa | register | valOffset | offset => exact (typed_two _).bind fun _ => .ok _
  case defCfaRegister | defCfaOffset | adjustCfaOffset =>
    refine (typed_one _).bind fun _ => ?_
    split
    · exact .ok _
    · exact .cfiState
  case restore =>
    refine (typed_one _).bind fun _ => ?_
    split
    · exact .ok _
    · exact .ok _
  case relOffset =>
    refine (typed_two _).bind fun _ => ?_
    split
    · exact .ok _
    · exact .cfiState
  case restoreState =>
    split
    · exact .cfiState
    · exact .ok _

theorem kindOf_startproc {n : String} (h : kindOf n = some .startproc) : n = ".cfi_startproc" := by
  unfold kindOf at h
  split at h <;> first | rfl | cases h

theorem sortBy_eq_sort {α} (key : α → Nat) (l : List α) :
    sortBy key l = Sorting.sort (fun a b => decide (key a ≤ key b)) l := by
  have hins := Sorting.insert_unique (fun a b => decide (key a ≤ key b)) (insertBy key)
    (fun _ => rfl) fun _ _ _ => by simp only [insertBy, decide_eq_true_eq]
  induction l with
  | nil => rfl
  | cons x xs ih => rw [sortBy, hins, ih]; rfl

theorem sortBy_perm {α} (key : α → Nat) (l : List α) : (sortBy key l).Perm l :=
  sortBy_eq_sort key l ▸ Sorting.sort_perm _ l

theorem sortBy_sorted {α} (key : α → Nat) (l : List α) :
    (sortBy key l).Pairwise (fun a b => key a ≤ key b) := by
  rw [sortBy_eq_sort]
  exact (Sorting.sort_sorted (fun a b => by simp only [Bool.or_eq_true, decide_eq_true_eq]; omega)
    (fun a b c => by simp only [decide_eq_true_eq]; omega) l).imp of_decide_eq_true

end GtirbVerif.CfiEval
