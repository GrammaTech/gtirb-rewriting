import GtirbVerif.Lemmas.IRTables

/-!
# The function tables and their cache stay in step (model side of C06)

`ModifyCache.functions_by_block` (`ir.fbb`) mirrors `functionBlocks`.  `Mirror ir` says: the
cache maps `b` to `f` exactly when `b` is listed under `f`.  It is preserved by
`add_function_block_aux` (for a block not yet in a function) and `remove_function_block_aux`,
the only two writers; a function that lost its last block leaves all three tables.
-/
namespace GtirbVerif.IR

def IR.inFunc (ir : IR) (b f : Nat) : Prop := b ∈ (alookup f ir.aux.funcBlocks).getD []

def IR.isEntry (ir : IR) (b f : Nat) : Prop := b ∈ (alookup f ir.aux.funcEntries).getD []

def Mirror (ir : IR) : Prop := ∀ b f, alookup b ir.fbb = some f ↔ ir.inFunc b f

theorem addFunctionBlock_mirror (ir : IR) (b f : Nat) (h : Mirror ir) (hnew : alookup b ir.fbb = none) :
    Mirror (ir.addFunctionBlock b f) := by
  intro c g
  show alookup c (aset b f ir.fbb) = some g ↔ c ∈ (alookup g (setAdd f b ir.aux.funcBlocks)).getD []
  have hm : _ ↔ c ∈ (alookup g ir.aux.funcBlocks).getD [] := h c g
  rw [alookup_aset, mem_setAdd, ← hm]
  by_cases hc : c = b
  · subst hc
    rw [if_pos rfl, hnew]
    exact ⟨fun e => Or.inr ⟨(Option.some.inj e).symm, rfl⟩, fun e => e.elim nofun fun e => e.1 ▸ rfl⟩
  · rw [if_neg hc]
    exact ⟨Or.inl, fun e => e.elim id fun e => absurd e.2 hc⟩

theorem removeFunctionBlock_lookup (x : IR) (b c : Nat) :
    alookup c (x.removeFunctionBlock b).fbb = if c = b then none else alookup c x.fbb := by
  unfold IR.removeFunctionBlock
  cases hb : alookup b x.fbb with
  | none =>
    dsimp only
    split
    · rename_i hc; rw [hc, hb]
    · rfl
  | some f => exact ite_obs (fun y : IR => alookup c y.fbb) (alookup_adel ..) (alookup_adel ..)

theorem removeFunctionBlock_tables (x : IR) (b c g : Nat) :
    ((x.removeFunctionBlock b).inFunc c g ↔ x.inFunc c g ∧ (alookup b x.fbb = some g → c ≠ b)) ∧
    ((x.removeFunctionBlock b).isEntry c g ↔ x.isEntry c g ∧ (alookup b x.fbb = some g → c ≠ b)) := by
  unfold IR.removeFunctionBlock IR.inFunc IR.isEntry
  cases alookup b x.fbb with
  | none => exact ⟨⟨fun h => ⟨h, nofun⟩, And.left⟩, ⟨fun h => ⟨h, nofun⟩, And.left⟩⟩
  | some f =>
    rw [show (some f = some g → c ≠ b) ↔ (g = f → c ≠ b) from
      ⟨fun h e => h (e ▸ rfl), fun h e => h (Option.some.inj e).symm⟩]
    dsimp only
    cases hleft : ((dropMember b f x.aux.funcEntries).2 || (dropMember b f x.aux.funcBlocks).2) with
    | true => exact ⟨dropMember_lookup .., dropMember_lookup ..⟩
    | false =>
      rw [Bool.or_eq_false_iff] at hleft
      exact ⟨dropMember_adel _ _ _ _ _ hleft.2, dropMember_adel _ _ _ _ _ hleft.1⟩

theorem removeFunctionBlock_mirror (ir : IR) (b : Nat) (h : Mirror ir) : Mirror (ir.removeFunctionBlock b) := by
  intro c g
  rw [removeFunctionBlock_lookup, (removeFunctionBlock_tables ir b c g).1, ← h c g]
  by_cases hc : c = b
  · subst hc
    rw [if_pos rfl]
    exact ⟨nofun, fun e => absurd rfl (e.2 e.1)⟩
  · rw [if_neg hc]
    exact ⟨fun e => ⟨e, fun _ => hc⟩, And.left⟩

theorem sameFunction_left {ir : IR} {a f : Nat} (ha : alookup a ir.fbb = some f) (b : Nat) :
    ir.sameFunction a b = true ↔ alookup b ir.fbb = some f := by
  unfold IR.sameFunction
  rw [ha]
  cases alookup b ir.fbb with
  | none => exact ⟨nofun, nofun⟩
  | some g => exact ⟨fun h => congrArg some (beq_iff_eq.mp h).symm, fun h => beq_iff_eq.mpr (Option.some.inj h).symm⟩

/-- `_update_functions_aux_data` does nothing (a data block, a block in no function), or it is
`remove_function_block_aux` - after the next block became an entry, if the removed block was one of its
function `f`, the next block is code and the cache puts both into the same function -/
theorem removeFunctions_cases (x : IR) (blk : Block) (n : Option Nat) (nc : Bool) :
    x.removeFunctions blk n nc = x ∨ x.removeFunctions blk n nc = x.removeFunctionBlock blk.id ∨
    ∃ f, alookup blk.id x.fbb = some f ∧ x.isEntry blk.id f ∧ nc = true ∧ x.sameFunction blk.id (n.getD 0) = true ∧
      x.removeFunctions blk n nc =
        IR.removeFunctionBlock { x with aux := { x.aux with funcEntries := setAdd f (n.getD 0) x.aux.funcEntries } } blk.id := by
  unfold IR.removeFunctions
  cases blk.isCode with
  | false => exact Or.inl rfl
  | true =>
    rw [if_neg (by decide)]
    cases alookup blk.id x.fbb with
    | none => exact Or.inl rfl
    | some f =>
      dsimp only
      by_cases hp : (((alookup f x.aux.funcEntries).getD []).contains blk.id && nc && x.sameFunction blk.id (n.getD 0)) = true
      · rw [if_pos hp]
        rw [Bool.and_eq_true, Bool.and_eq_true, List.contains_iff_mem] at hp
        exact Or.inr (Or.inr ⟨f, rfl, hp.1.1, hp.1.2, hp.2, rfl⟩)
      · rw [if_neg hp]
        exact Or.inr (Or.inl rfl)

end GtirbVerif.IR
