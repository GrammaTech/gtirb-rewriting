import GtirbVerif.Model.Dwarf.Leb

/-! The fixed-width codec (`int.to_bytes` / `int.from_bytes`); LEB128 is in `Lemmas/Leb`. -/
namespace GtirbVerif.Dwarf

theorem leBytes_length (n v : Nat) : (leBytes n v).length = n := by
  induction n generalizing v with
  | zero => rfl
  | succ n ih => simp [leBytes, ih]

theorem leBytes_lt (n v : Nat) : ∀ b ∈ leBytes n v, b < 256 := by
  induction n generalizing v with
  | zero => exact List.forall_mem_nil _
  | succ n ih => exact List.forall_mem_cons.mpr ⟨by omega, ih _⟩

theorem leVal_leBytes (n v : Nat) : leVal (leBytes n v) = v % 256 ^ n := by
  induction n generalizing v with
  | zero => simp [leBytes, leVal, Nat.mod_one]
  | succ n ih =>
    simp only [leBytes, leVal, ih]
    rw [Nat.pow_succ, Nat.mul_comm (256 ^ n) 256, Nat.mod_mul]

theorem orderBytes_orderBytes (bo : ByteOrder) (l : List Nat) :
    orderBytes bo (orderBytes bo l) = l := by
  cases bo <;> simp [orderBytes]

theorem orderBytes_length (bo : ByteOrder) (l : List Nat) :
    (orderBytes bo l).length = l.length := by
  cases bo <;> simp [orderBytes]

theorem orderBytes_lt (bo : ByteOrder) (l : List Nat) (h : ∀ b ∈ l, b < 256) :
    ∀ b ∈ orderBytes bo l, b < 256 := by
  cases bo <;> simp_all [orderBytes]

theorem pow256 (n : Nat) : 256 ^ n = 2 ^ (8 * n) := by
  rw [Nat.pow_mul]

theorem intEnc_length {n s bo v l} (h : intEnc n s bo v = some l) : l.length = n := by
  unfold intEnc at h
  split at h
  · cases h; rw [orderBytes_length, leBytes_length]
  · cases h

theorem intEnc_lt {n s bo v l} (h : intEnc n s bo v = some l) : ∀ b ∈ l, b < 256 := by
  unfold intEnc at h
  split at h
  · cases h; exact orderBytes_lt _ _ (leBytes_lt _ _)
  · cases h

theorem inIntDomain_iff (n : Nat) (s : Bool) (v : Int) : inIntDomain n s v = true ↔
    if s then -(2 ^ (8 * n - 1) : Int) ≤ v ∧ v < (2 ^ (8 * n - 1) : Int)
    else 0 ≤ v ∧ v < (2 ^ (8 * n) : Int) := by
  unfold inIntDomain; split <;> simp

/-- `hn`: at width 0 the model's signed range still holds -1 -/
theorem intDec_intEnc (n : Nat) (s : Bool) (hn : s = true → n ≠ 0) (bo : ByteOrder) (v : Int)
    (l rest : List Nat) (h : intEnc n s bo v = some l) :
    intDec n s bo (l ++ rest) = (v, n, rest) := by
  have hl := intEnc_length h
  unfold intEnc at h
  split at h
  · rename_i hd
    cases h
    unfold intDec
    rw [List.take_left' hl, List.drop_left' hl]
    simp only [orderBytes_orderBytes, leVal_leBytes, orderBytes_length, leBytes_length, pow256]
    -- from here on arithmetic over the natural numbers `P = 2^(8n)` and `H = 2^(8n-1)` (`norm_cast` writes the
    -- powers of the integer 2 as their casts), with `P = 2H` when `n ≠ 0`
    have hPH : n ≠ 0 → 2 ^ (8 * n) = 2 * 2 ^ (8 * n - 1) := fun hn => by
      rw [← Nat.pow_succ']; congr 1; omega
    rw [inIntDomain_iff] at hd
    norm_cast at hd ⊢
    clear hl
    generalize 2 ^ (8 * n) = P at *
    generalize 2 ^ (8 * n - 1) = H at *
    cases s
    · simp only [Bool.false_eq_true, ↓reduceIte, false_and] at hd ⊢
      rw [Int.emod_eq_of_lt hd.1 hd.2, Nat.mod_eq_of_lt (by omega)]
      congr 1; omega
    · simp only [↓reduceIte, true_and] at hd ⊢
      have hn := hn rfl
      have hPH := hPH hn
      -- a negative `v` is reduced to `v + P`, which reads as a number from `H` on
      by_cases hneg : v < 0
      · rw [← Int.add_emod_right, Int.emod_eq_of_lt (by omega) (by omega), Nat.mod_eq_of_lt (by omega),
          if_pos (by omega)]
        congr 1; omega
      · rw [Int.emod_eq_of_lt (by omega) (by omega), Nat.mod_eq_of_lt (by omega), if_neg (by omega)]
        congr 1; omega
  · cases h

end GtirbVerif.Dwarf
