import GtirbVerif.Lemmas.AsmStep
/-!
Tiling invariant of the streamer: in every section the blocks sit end to end from offset 0 and
the last one ends at the end of the section's data.
-/
namespace GtirbVerif.Asm

/-- the end offset when the blocks sit end to end starting at `p` -/
def tiles : Nat → List ABlock → Option Nat
  | p, [] => some p
  | p, b :: bs => if b.off = p then tiles (p + b.size) bs else none

theorem tiles_cons {p e : Nat} {b : ABlock} {bs : List ABlock} :
    tiles p (b :: bs) = some e ↔ b.off = p ∧ tiles (p + b.size) bs = some e := by
  simp only [tiles]
  split <;> simp [*]

theorem tiles_append (p : Nat) (xs ys : List ABlock) :
    tiles p (xs ++ ys) = (tiles p xs).bind (fun q => tiles q ys) := by
  induction xs generalizing p with
  | nil => simp [tiles]
  | cons x xs ih =>
    simp only [List.cons_append, tiles]
    split
    · exact ih _
    · simp

theorem tiles_concat {p e : Nat} {xs : List ABlock} {b : ABlock} :
    tiles p (xs ++ [b]) = some e ↔ ∃ q, tiles p xs = some q ∧ b.off = q ∧ q + b.size = e := by
  rw [tiles_append]
  cases tiles p xs with
  | none => simp
  | some q => simp [tiles]

def TiledS (s : ASect) : Prop := s.blocks ≠ [] ∧ tiles 0 s.blocks = some s.dataLen

/-- `curBlock` and `terminateSect` take the last block this way -/
theorem eq_dropLast_concat {α : Type} [Inhabited α] {l : List α} (h : l ≠ []) : l = l.dropLast ++ [l.getLast?.getD default] := by
  rw [List.getLast?_eq_some_getLast h]
  simp [List.dropLast_concat_getLast]

theorem TiledS.cur_end {s : ASect} (h : TiledS s) :
    ∃ q, tiles 0 s.blocks.dropLast = some q ∧ s.curBlock.off = q ∧ q + s.curBlock.size = s.dataLen := by
  have ht := h.2
  rw [eq_dropLast_concat h.1] at ht
  exact tiles_concat.1 ht

theorem TiledS.of_concat {s : ASect} {pre : List ABlock} {c : ABlock} {q : Nat} (hb : s.blocks = pre ++ [c])
    (hq : tiles 0 pre = some q) (ho : c.off = q) (he : q + c.size = s.dataLen) : TiledS s := by
  unfold TiledS
  rw [hb]
  exact ⟨by simp, tiles_concat.2 ⟨q, hq, ho, he⟩⟩

theorem TiledS.append {s : ASect} (h : TiledS s) (n : Nat) : TiledS (s.append n) := by
  obtain ⟨q, hq, ho, he⟩ := h.cur_end
  refine .of_concat (pre := s.blocks.dropLast) rfl hq ho ?_
  show q + (s.curBlock.size + n) = s.dataLen + n
  omega

theorem TiledS.push {s : ASect} (h : TiledS s) (id : Nat) :
    TiledS { s with blocks := s.blocks ++ [{ id := id, off := s.curBlock.off + s.curBlock.size, size := 0 }] } := by
  obtain ⟨q, _, ho, he⟩ := h.cur_end
  exact .of_concat (pre := s.blocks) rfl h.2 (by rw [ho]; exact he) rfl

theorem TiledS.split {s : ASect} (h : TiledS s) (st : AState) (f : Bool) : TiledS (splitBlock st s f).2 := by
  unfold splitBlock
  exact h.push _

theorem TiledS.congr {s s' : ASect} (h : TiledS s) (hb : s'.blocks = s.blocks) (hd : s'.dataLen = s.dataLen) : TiledS s' := by
  unfold TiledS at *
  rw [hb, hd]; exact h

theorem TiledS.insnSect {s : ASect} (hs : TiledS s) (size : Nat) (fx : List Fixup) : TiledS (insnSect s size fx) := by
  unfold GtirbVerif.Asm.insnSect
  exact (hs.congr rfl rfl).append size

theorem TiledS.encoded {s : ASect} (hs : TiledS s) (st : AState) (n : Nat) (ty : DType) (e : Option Fixup) :
    TiledS (encoded st s n ty e).2 := by
  unfold GtirbVerif.Asm.encoded
  refine TiledS.split (TiledS.append ?_ n) _ _
  have h1 := hs.split st false
  cases e with
  | none => exact h1
  | some f => exact h1.congr rfl rfl

theorem TiledS.terminate {s : ASect} (hs : TiledS s) (hl : s.blocks.length ≥ 2) (hz : s.curBlock.size = 0) :
    TiledS (terminateSect s) := by
  have hne : s.blocks.dropLast ≠ [] := fun h0 => by
    have := congrArg List.length h0
    simp at this; omega
  obtain ⟨q, hq, ho, he⟩ := hs.cur_end
  rw [eq_dropLast_concat hne] at hq
  -- the NUL goes into the block before the current one, which moves up by one
  unfold terminateSect
  generalize s.blocks.dropLast.getLast?.getD default = p at hq ⊢
  obtain ⟨q0, hq0, hp, hpe⟩ := tiles_concat.1 hq
  refine .of_concat (pre := s.blocks.dropLast.dropLast ++ [{ p with size := p.size + 1 }])
    (c := { s.curBlock with off := s.curBlock.off + 1 }) (q := q + 1) (by simp) (tiles_concat.2 ⟨q0, hq0, hp, ?_⟩) ?_ ?_
  · show q0 + (p.size + 1) = q + 1
    omega
  · show s.curBlock.off + 1 = q + 1
    omega
  · show q + 1 + s.curBlock.size = s.dataLen + 1
    omega

/-- what `_append_data`, `_split_block` and the other `emit_*` steps maintain: in every section the
blocks cover the data end to end (C12: `run_tiled`, `assemble_tiled`) -/
def Inv (st : AState) : Prop := ∀ s ∈ st.sects, TiledS s

/-- `setSect` puts `s` in the place of every section of its name -/
theorem mem_setSect {st : AState} {s x : ASect} (h : x ∈ (st.setSect s).sects) :
    x = s ∨ (x ∈ st.sects ∧ ¬(x.name == s.name) = true) := by
  unfold AState.setSect at h
  obtain ⟨y, hy, rfl⟩ := List.mem_map.1 h
  split
  · exact .inl rfl
  · rename_i hne; exact .inr ⟨hy, hne⟩

theorem Inv.setSect {st : AState} {s : ASect} (h : Inv st) (hs : TiledS s) : Inv (st.setSect s) :=
  fun _ hx => (mem_setSect hx).elim (· ▸ hs) (fun hx => h _ hx.1)

theorem Inv.of_sects {st st' : AState} (h : Inv st) (hs : st'.sects = st.sects) : Inv st' := by
  unfold Inv at *; rw [hs]; exact h

theorem sect?_mem {st : AState} {s : ASect} (h : st.sect? = some s) : s ∈ st.sects := by
  unfold AState.sect? at h
  split at h
  · cases h
  · exact List.mem_of_find?_eq_some h

theorem Inv.empty : Inv ({} : AState) := by
  intro s hs; cases hs

end GtirbVerif.Asm
