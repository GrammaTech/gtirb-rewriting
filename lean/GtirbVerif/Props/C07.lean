import GtirbVerif.Spec.Scopes
import GtirbVerif.Lemmas.SortOn
import GtirbVerif.Lemmas.Basics
import GtirbVerif.Lemmas.Store

/-!
# C07 — each registered insertion lands exactly once, exactly where asked

* **specification** — `Scopes.expectedInvocations` (Spec/Scopes.lean): which blocks every scope
  designates, at which offset, in which order the patches are invoked; the driver evaluates it
  on the module before the rewrite; the harness compares the recorded invocations
  (registration, original block, offset, function of the `InsertionContext`) with it and checks
  the place of every marker in the output bytes with the listing specification of C01.
* **theorems** (this file) say that the specification is the property: an invocation happens
  for exactly the (registration, block) pairs where the scope designates the block, at the
  offset the position prescribes; that offset is 0 or the end of the non-terminator
  instructions — an instruction boundary not after the terminator; inside a block invocations
  are ordered by offset and, at one offset, by registration order.
* **model** — `Store.*` (Model/Rewrite/Store.lean) follows `_ModificationStore.add`,
  `modifications_for_block`, `resolve_offsets` and the scope classes of `scopes.py` statement by
  statement; the correspondence runs the real store and the model on the same registrations and
  blocks (every block of every generated module, plus request lists with replacements, deletions
  and overlaps that `apply()` would refuse) and compares the answers.
* **theorems about the model** (for every list of registrations, in any order, and every block):
  the store hands out exactly the registrations whose scope designates the block, each exactly as
  often as it was registered, whatever else was registered in between; `resolve_offsets` answers
  with a permutation of what it was given - nothing dropped, nothing doubled -, each at the first
  potential offset of its scope, in listing order (offset; insertions before the replacement or
  deletion that starts there; registration id), pairwise non-overlapping; it refuses a
  request list exactly when two requests overlap in that order; and with distinct registration
  ids neither what the store hands out (as a set) nor what `resolve_offsets` answers depends on the
  order of the registrations (`store_any_registration_order`, `resolve_offsets_any_order`); the
  offset the model resolves a position to is the one the specification prescribes, given that the
  instruction sizes it is handed are what `_nonterminator_instructions` is defined to keep
  (`store_offset_is_the_specifications`; the harness evaluates that premise on the real helper for
  every block it sees).
-/
/-! `Spec/Scopes.lean` (what the oracle evaluates on the module before the rewrite) computes the EXIT offset
from all instruction sizes and the block's out-edges; the model of `scopes.py` takes the sizes of the
instructions `utils._nonterminator_instructions` keeps as a parameter.  The two definitions below say what that
parameter is when it is what the helper's definition says, and how the positions of model and specification
correspond (`store_offset_is_the_specifications`). -/
namespace GtirbVerif.Store
open GtirbVerif GtirbVerif.IR

/-- `utils._nonterminator_instructions`, on instruction sizes -/
def nontermSizes (ir : IR) (b : Block) (sizes : List Nat) : List Nat :=
  if (ir.outEdges b.id).all Edge.isFall then sizes else sizes.dropLast

def specPos : Pos → Scopes.Pos
  | .entry => .entry
  | .exit => .exit
  | .anywhere => .anywhere

end GtirbVerif.Store

namespace GtirbVerif.Props.C07
open GtirbVerif GtirbVerif.IR GtirbVerif.Listing GtirbVerif.Scopes

/-- the invocations of one block: the function under the `flatMap` of `Scopes.expectedInvocations`, copied by hand
(no theorem mentions `expectedInvocations` itself) -/
def invocationsOf (ir : IR) (funcs : List Func) (insnSizes : List (Nat × List Nat)) (regs : List Scope) (b : Block) :
    List Invocation :=
  sortOn (fun (v : Invocation) => (v.off, v.reg))
    ((regs.zipIdx.filter (fun (sc, _) => designates ir funcs b sc)).map (fun (sc, i) =>
      ({ reg := i, block := b.id, off := offsetOf ir b ((insnSizes.lookup b.id).getD []) sc, func := FlatCfg.funcOf ir b.id } : Invocation)))

/-- **exactly the designated pairs**: `(i, b)` is invoked iff registration `i` designates `b`,
and then at the offset its position prescribes -/
theorem invoked_iff_designated (ir : IR) (funcs : List Func) (sizes : List (Nat × List Nat)) (regs : List Scope)
    (b : Block) (v : Invocation) :
    v ∈ invocationsOf ir funcs sizes regs b ↔
      ∃ sc, (sc, v.reg) ∈ regs.zipIdx ∧ designates ir funcs b sc = true ∧
        v = { reg := v.reg, block := b.id, off := offsetOf ir b ((sizes.lookup b.id).getD []) sc, func := FlatCfg.funcOf ir b.id } := by
  unfold invocationsOf
  rw [(sortOn_perm _ _).mem_iff]
  simp only [List.mem_map, List.mem_filter]
  constructor
  · rintro ⟨⟨sc, i⟩, ⟨hm, hd⟩, rfl⟩
    exact ⟨sc, hm, hd, rfl⟩
  · rintro ⟨sc, hm, hd, hv⟩
    exact ⟨(sc, v.reg), ⟨hm, hd⟩, hv.symm⟩

/-- **order inside a block**: by offset, and at one offset by registration order -/
theorem ordered_by_offset_then_registration (ir : IR) (funcs : List Func) (sizes : List (Nat × List Nat)) (regs : List Scope)
    (b : Block) :
    (invocationsOf ir funcs sizes regs b).Pairwise (fun v w => v.off < w.off ∨ (v.off = w.off ∧ v.reg ≤ w.reg)) := by
  unfold invocationsOf
  exact (sortOn_sorted (fun (v : Invocation) => (v.off, v.reg)) _).imp (fun h => h)

/-- **where**: ENTRY and ANYWHERE put the patch at offset 0, EXIT behind the last instruction that
is not the terminator; both are instruction boundaries (prefix sums of the instruction sizes) not
after the terminator -/
theorem offset_is_a_boundary_before_the_terminator (ir : IR) (b : Block) (sizes : List Nat) (sc : Scope)
    (h : ∀ blk off, sc ≠ .atOffset blk off) :
    offsetOf ir b sizes sc = 0 ∨ offsetOf ir b sizes sc = sizes.sum ∨ offsetOf ir b sizes sc = sizes.dropLast.sum := by
  have hexit : beforeTerminator ir b sizes = sizes.sum ∨ beforeTerminator ir b sizes = sizes.dropLast.sum := by
    unfold beforeTerminator
    split
    · exact .inl rfl
    · exact .inr rfl
  cases sc with
  | atOffset blk off => exact absurd rfl (h blk off)
  | allBlocks p _ | single _ p | allFunctions _ p _ =>
    cases p with
    | entry => exact .inl rfl
    | exit => exact .inr hexit
    | anywhere => exact .inl rfl

/-- an EXIT offset never lies behind the terminator: it is at most the end of the last
non-terminator instruction, which is at most the block's instruction bytes -/
theorem exit_offset_le_size (ir : IR) (b : Block) (sizes : List Nat) : beforeTerminator ir b sizes ≤ sizes.sum := by
  unfold beforeTerminator
  split
  · exact Nat.le_refl _
  · -- the sizes are all but the last, and the last
    rcases List.eq_nil_or_concat sizes with rfl | ⟨l, a, rfl⟩
    · exact Nat.le_refl _
    · rw [List.concat_eq_append, List.dropLast_concat, List.sum_append]
      exact Nat.le_add_right _ _

section store
open GtirbVerif.Store

/-- **each registration reaches exactly the blocks its scope designates, once**: after any sequence
of `add`s, the modifications for a block are (up to order) the registered ones whose scope matches -/
theorem store_hands_out_exactly_the_designated (ms : List Mod) (env : BlockEnv) :
    ((build ms).modificationsFor env).Perm (ms.filter (fun m => blockMatches env m.scope)) :=
  modificationsFor_build ms env ▸ (List.filter_append_perm keyed ms).filter _

/-- ... so a registration with a unique id is handed out for a block exactly once if its scope
matches, and never otherwise -/
theorem store_count (ms : List Mod) (env : BlockEnv) (m : Mod) :
    ((build ms).modificationsFor env).count m = if blockMatches env m.scope then ms.count m else 0 := by
  rw [(store_hands_out_exactly_the_designated ms env).count_eq]
  by_cases h : blockMatches env m.scope = true
  · rw [if_pos h]
    exact List.count_filter h
  · rw [if_neg h]
    exact List.count_eq_zero.mpr (not_mem_filter (by simpa using h))

/-- ... and registrations that are pairwise different (they carry different ids) are never handed out twice -/
theorem store_no_duplicates (ms : List Mod) (env : BlockEnv) (h : ms.Nodup) : ((build ms).modificationsFor env).Nodup :=
  (store_hands_out_exactly_the_designated ms env).nodup_iff.mpr (List.Pairwise.filter _ h)

/-- **nothing dropped, nothing doubled, each where its scope puts it, in listing order, disjoint** -/
theorem resolve_offsets_answer {env : BlockEnv} {mods : List Mod} {r : List (Mod × Nat)}
    (h : resolveOffsets env mods = .ok r) :
    (r.map (·.1)).Perm mods ∧
    (∀ x ∈ r, firstOffset env (haveDisFor env mods) x.1.scope = .ok x.2) ∧
    r.Pairwise Before ∧ r.Pairwise Clear := by
  obtain ⟨l, hl, hc, rfl⟩ := resolveOffsets_ok_iff.mp h
  obtain ⟨hall, rfl⟩ := (offsetsOf_ok_iff _ _ _ _).mp hl
  refine ⟨?_, fun x hx => ?_, sortK_sorted _, hc⟩
  · -- sorting permutes the pairs, and their first components are the modifications
    refine ((sortK_perm _).map (·.1)).trans (.of_eq ?_)
    rw [List.map_map]
    exact map_eq_self fun _ _ => rfl
  · obtain ⟨m, hm, rfl⟩ := List.mem_map.mp ((sortK_perm _).mem_iff.mp hx)
    exact hall m hm

/-- **a non-overlapping request list is never refused** -/
theorem resolve_offsets_accepts_non_overlapping {env : BlockEnv} {mods : List Mod} {l : List (Mod × Nat)}
    (hl : offsetsOf env (haveDisFor env mods) mods = .ok l) (hc : (sortK l).Pairwise Clear) :
    resolveOffsets env mods = .ok (sortK l) :=
  resolveOffsets_ok_iff.mpr ⟨l, hl, hc, rfl⟩

/-- **an overlapping one is refused as a whole** (the assertion; nothing is applied) -/
theorem resolve_offsets_refuses_overlap {env : BlockEnv} {mods : List Mod} {l : List (Mod × Nat)}
    (hl : offsetsOf env (haveDisFor env mods) mods = .ok l) (hc : ¬ (sortK l).Pairwise Clear) :
    resolveOffsets env mods = .error (.assertion "modifications overlap") := by
  rw [resolveOffsets_of_offsets hl, if_neg (mt (checkOverlap_zero _).mp hc)]

/-- scope positions: ENTRY and ANYWHERE resolve to offset 0, EXIT to the end of the instructions that
are not the terminator -/
theorem scope_offset (env : BlockEnv) (hd : Bool) (sc : Store.Scope) (off : Nat) (h : firstOffset env hd sc = .ok off)
    (hs : ∀ b o r, sc ≠ .specific b o r) : off = 0 ∨ off = env.nonterm.sum := by
  have key : ∀ p : Store.Pos, firstInBlock env hd p = .ok off → off = 0 ∨ off = env.nonterm.sum := by
    intro p hp
    cases p with
    | entry => cases hp; exact .inl rfl
    | anywhere =>
      rcases ite_eq_iff.mp hp with ⟨_, hp⟩ | ⟨_, hp⟩
      · cases hp; exact .inl rfl
      · cases hp
    | exit =>
      rcases ite_eq_iff.mp hp with ⟨_, hp⟩ | ⟨_, hp⟩
      · cases hp
      rcases ite_eq_iff.mp hp with ⟨_, hp⟩ | ⟨_, hp⟩
      · cases hp
      cases hp; exact .inr rfl
  cases sc with
  | specific b o r => exact absurd rfl (hs b o r)
  | allBlocks p _ | single _ p | allFunctions _ p _ =>
    rcases ite_eq_iff.mp h with ⟨_, h⟩ | ⟨_, h⟩
    · cases h
    · exact key p h

/-- **registered in any order** (the store): two registration sequences that are permutations of each other
hand out, for every block, permutations of one list -/
theorem store_any_registration_order {ms1 ms2 : List Mod} (hp : ms1.Perm ms2) (env : BlockEnv) :
    ((build ms1).modificationsFor env).Perm ((build ms2).modificationsFor env) :=
  (store_hands_out_exactly_the_designated ms1 env).trans
    ((hp.filter _).trans (store_hands_out_exactly_the_designated ms2 env).symm)

/-- **... in any order** (the resolution): with distinct registration ids `resolve_offsets` gives the same
answer for every permutation of the modifications it is handed -/
theorem resolve_offsets_any_order {env : BlockEnv} {m1 m2 : List Mod} {r : List (Mod × Nat)} (hp : m1.Perm m2)
    (hid : ∀ a ∈ m1, ∀ b ∈ m1, a.id = b.id → a = b) (h : resolveOffsets env m1 = .ok r) :
    resolveOffsets env m2 = .ok r := by
  obtain ⟨l, hl, hc, rfl⟩ := resolveOffsets_ok_iff.mp h
  obtain ⟨hall, rfl⟩ := (offsetsOf_ok_iff _ _ _ _).mp hl
  -- the same offsets for `m2`, listed in its order; sorting forgets the order
  have hs := sortK_perm_eq (hp.map fun m => (m, offOf env (haveDisFor env m1) m)) (by
    simp only [List.mem_map, forall_exists_index, and_imp]
    rintro _ a ha rfl _ b hb rfl hab
    rw [hid a ha b hb hab])
  refine resolveOffsets_ok_iff.mpr ⟨_, ?_, hs ▸ hc, hs⟩
  rw [← haveDisFor_perm hp]
  exact (offsetsOf_ok_iff _ _ _ _).mpr ⟨fun m hm => hall m (hp.mem_iff.mpr hm), rfl⟩

/-- **the model's offsets are the specification's**: when the instruction sizes handed to the model are what
`_nonterminator_instructions` is defined to keep (every instruction if all out-edges are fallthroughs, all but
the last otherwise) and capstone decoded the whole block, the offset the model of `scopes.py` resolves a position
to is the offset `Spec/Scopes.lean` - the oracle - prescribes -/
theorem store_offset_is_the_specifications (ir : IR) (b : Block) (sizes : List Nat) (env : BlockEnv) (p : Store.Pos)
    (hp : env.partialDis = false) (hn : env.nonterm = nontermSizes ir b sizes) :
    firstInBlock env true p = .ok (Scopes.offsetOf ir b sizes (.single b.id (specPos p))) := by
  cases p with
  | entry => rfl
  | anywhere => rfl
  | exit =>
    simp only [firstInBlock, hp, hn, nontermSizes, Scopes.offsetOf, specPos, Scopes.beforeTerminator,
      Bool.not_true, Bool.false_eq_true, if_false]
    by_cases h : (ir.outEdges b.id).all Edge.isFall = true
    · simp only [h, if_true]
    · simp only [h, if_false, Bool.false_eq_true]

/-! non-vacuity: two insertions and a replacement at one offset, registered replacement first -/
private def envX : BlockEnv := { id := 7, isCode := true, func := none, nonterm := [1, 2], partialDis := false }
private def regsX : List Mod :=
  [{ id := 0, scope := .specific 7 3 2 }, { id := 1, scope := .allBlocks .exit none },
   { id := 2, scope := .single 7 .entry }, { id := 3, scope := .single 8 .entry }]
example : ((build regsX).modificationsFor envX).map (·.id) = [0, 2, 1] := by decide
example : (resolveOffsets envX ((build regsX).modificationsFor envX)).toOption.map (·.map (fun x => (x.1.id, x.2))) =
    some [(2, 0), (1, 3), (0, 3)] := by decide
example : (match resolveOffsets envX [{ id := 0, scope := .specific 7 0 2 }, { id := 1, scope := .specific 7 1 0 }] with
    | .error (.assertion s) => s
    | .ok _ => "") = "modifications overlap" := by decide

end store

end GtirbVerif.Props.C07
