import GtirbVerif.Lemmas.CfiEval
import GtirbVerif.Lemmas.Basics
import GtirbVerif.Gen.DwarfTables
import GtirbVerif.Gen.AbiBasic
import GtirbVerif.Spec.Platform

/-!
# C15 — CFI evaluation implements the DWARF rules and fails cleanly

The model (`Model/Dwarf/CfiEval.lean`, Python-dict semantics) refines the
specification (`Spec/CfiSpec.lean`, total rule tables written from DWARF v4
§6.4) for every directive, every state and every operand list.
-/
namespace GtirbVerif.Props.C15
open GtirbVerif GtirbVerif.Dwarf GtirbVerif.CfiEval GtirbVerif.CfiSpec

/-- **Refinement** for every directive kind, state, operand list and symbol slot. -/
theorem refines (et ct : Table) (abi : AbiParams) (s : Proc) (k : Kind)
    (args : List Int) (sym : SymRef) :
    (stepIn et ct abi s k args sym).map (Option.map absProc) =
      specIn et ct abi (absProc s) k args sym := by
  -- model and specification are the same program over two kinds of row; with `map` pushed
  -- inside, each kind needs the lemma by which its row operation commutes with `absRow`
  cases k <;> simp only [stepIn, specIn, Except.map_bind]
  case startproc | endproc | personality | lsda | returnColumn | defCfa => rfl
  case undefined | sameValue | register | valOffset | offset =>
    simp only [Except.map, Option.map, absProc, absRow_set]
  case escape => simp only [Except.map, Option.map, absProc, absRow_foldl]
  case defCfaRegister | defCfaOffset | adjustCfaOffset =>
    congr 1; funext r
    rw [show (absProc s).current.cfa = s.current.cfa from rfl]
    cases s.current.cfa with
    | none => rfl
    | some c => cases c <;> rfl
  case restore =>
    congr 1; funext r
    rw [show (absProc s).initial.regs r = getKey r s.initial.regs from rfl]
    cases getKey r s.initial.regs <;>
      simp only [Except.map, Option.map, absProc, absRow_set, absRow_erase]
  case relOffset =>
    congr 1; funext ⟨r, o⟩
    rw [show (absProc s).current.regs r = getKey r s.current.regs from rfl]
    cases getKey r s.current.regs with
    | none => rfl
    | some rule =>
      cases rule <;> first | rfl | simp only [Except.map, Option.map, absProc, absRow_set]
  case rememberState =>
    simp only [Except.map, Option.map, absProc, List.reverse_append, List.reverse_cons,
      List.reverse_nil, List.nil_append, List.map_cons, List.cons_append]
  case restoreState =>
    -- the model's stack grows at the end, the specification's at the head
    rcases List.eq_nil_or_concat s.stack with h | ⟨init, top, h⟩ <;>
      simp [h, Except.map, absProc]

/-- the dictionary operations behave like a total table with default `none` -/
theorem dict_set (k k' : Int) (v : Rule) (l : Regs) :
    getKey k' (setKey k v l) = if k' = k then some v else getKey k' l := getKey_setKey k k' v l

theorem dict_erase (k k' : Int) (l : Regs) :
    getKey k' (eraseKey k l) = if k' = k then none else getKey k' l := getKey_eraseKey k k' l

/-- **restore-to-initial**: after `.cfi_restore r` column `r` has exactly the
rule (or absence of rule) of the initial row; every other column is untouched;
the directive never fails on a well-formed operand list. -/
theorem restore_to_initial (et ct : Table) (abi : AbiParams) (s : Proc) (r : Int) (sym : SymRef) :
    ∃ s', stepIn et ct abi s .restore [r] sym = .ok (some s') ∧
      getKey r s'.current.regs = getKey r s.initial.regs ∧
      (∀ k, k ≠ r → getKey k s'.current.regs = getKey k s.current.regs) ∧
      s'.current.cfa = s.current.cfa ∧ s'.initial = s.initial ∧ s'.stack = s.stack := by
  simp only [stepIn, one, bind, Except.bind]
  cases h : getKey r s.initial.regs <;>
    exact ⟨_, rfl, by simp [getKey_setKey, getKey_eraseKey],
      fun k hk => by simp [getKey_setKey, getKey_eraseKey, hk], rfl, rfl, rfl⟩

theorem restore_pops (et ct : Table) (abi : AbiParams) (s : Proc) (top : Row) (init : List Row)
    (h : s.stack = init ++ [top]) (a : List Int) (sy : SymRef) :
    stepIn et ct abi s .restoreState a sy =
      .ok (some { s with current := top, stack := init }) := by
  simp [stepIn, h, List.dropLast_append_of_ne_nil]

/-- **remember/restore is a stack**: restoring right after remembering gives the
state back; in general restore pops what the matching remember pushed. -/
theorem remember_then_restore (et ct : Table) (abi : AbiParams) (s : Proc) (a a' : List Int)
    (sy sy' : SymRef) :
    ∃ s1, stepIn et ct abi s .rememberState a sy = .ok (some s1) ∧
      stepIn et ct abi s1 .restoreState a' sy' = .ok (some s) :=
  ⟨_, rfl, restore_pops et ct abi _ s.current s.stack rfl a' sy'⟩

theorem restore_state_empty_stack (et ct : Table) (abi : AbiParams) (s : Proc) (h : s.stack = [])
    (a : List Int) (sy : SymRef) :
    stepIn et ct abi s .restoreState a sy = .error .cfiState := by
  simp [stepIn, h]

/-- `.cfi_startproc` outside a procedure creates the fresh state with the ABI's
return column; the state is reset between procedures because `.cfi_endproc`
leaves no state at all. -/
theorem startproc_fresh (et ct : Table) (abi : AbiParams) (rc : Int) (h : abi.retcol = some rc)
    (d : Directive) (hd : d.name = ".cfi_startproc") :
    step et ct abi none d = .ok (some { retcol := rc }, true) ∧
    absProc { retcol := rc } = freshProc rc := by
  have hk : kindOf d.name = some .startproc := by rw [hd]; rfl
  exact ⟨by simp only [step, hk, h], rfl⟩

theorem endproc_resets (et ct : Table) (abi : AbiParams) (s : Proc) (d : Directive)
    (hd : d.name = ".cfi_endproc") : step et ct abi (some s) d = .ok (none, false) := by
  have hk : kindOf d.name = some .endproc := by rw [hd]; rfl
  simp only [step, hk, stepIn, bind, Except.bind]

theorem nested_startproc (et ct : Table) (abi : AbiParams) (s : Proc) (d : Directive)
    (hd : d.name = ".cfi_startproc") : step et ct abi (some s) d = .error .cfiState := by
  have hk : kindOf d.name = some .startproc := by rw [hd]; rfl
  simp only [step, hk]

theorem outside_procedure (et ct : Table) (abi : AbiParams) (d : Directive)
    (hd : d.name ≠ ".cfi_startproc") : step et ct abi none d = .error .cfiState := by
  unfold step
  cases hk : kindOf d.name with
  | none => rfl
  | some k => cases k <;> first | rfl | exact absurd (kindOf_startproc hk) hd

/-- offset changes when the CFA is not register+offset are CFIStateError -/
theorem cfa_offset_needs_regoff (et ct : Table) (abi : AbiParams) (s : Proc) (k : Kind)
    (hk : k = .defCfaRegister ∨ k = .defCfaOffset ∨ k = .adjustCfaOffset) (v : Int) (sym : SymRef)
    (h : ∀ r o, s.current.cfa ≠ some (.regOff r o)) :
    stepIn et ct abi s k [v] sym = .error .cfiState := by
  -- `h` is the side condition of the fall-through equation of the `match` on the CFA
  rcases hk with rfl | rfl | rfl <;> simp only [stepIn, one, bind, Except.bind]

/-- a personality/LSDA directive whose symbol slot holds a UUID (missing symbol)
and whose encoding is not DW_EH_PE_omit is a ValueError -/
theorem missing_symbol (et ct : Table) (abi : AbiParams) (s : Proc) (k : Kind)
    (hk : k = .personality ∨ k = .lsda) (enc : Int) (henc : enc ≠ 255) (sym : SymRef)
    (hs : ∀ n, sym ≠ .sym n) : stepIn et ct abi s k [enc] sym = .error .valueError := by
  rcases hk with rfl | rfl <;>
  · simp only [stepIn, encodedPointer, one, bind, Except.bind, henc, ↓reduceIte]
    cases sym with
    | sym n => exact absurd rfl (hs n)
    | nullUuid => rfl
    | otherUuid => rfl

/-- **errors are typed**: over the supported directive set (escapes aside), on
an ABI with a DWARF return column, the only errors are CFIStateError and
ValueError — for every state, operand list and symbol slot. -/
theorem errors_typed (et ct : Table) (abi : AbiParams) (st : Option Proc) (d : Directive)
    (k : Kind) (hk : kindOf d.name = some k) (hne : k ≠ .escape) (hrc : abi.retcol ≠ none)
    (e : EvalErr) (h : step et ct abi st d = .error e) : e = .cfiState ∨ e = .valueError := by
  refine (?_ : Typed (step et ct abi st d)) e h
  unfold step
  rw [hk]
  cases st with
  | none =>
    cases k
    case startproc =>
      cases hr : abi.retcol with
      | none => exact absurd hr hrc
      | some rc => exact .ok _
    all_goals exact .cfiState
  | some s =>
    cases k
    case startproc => exact .cfiState
    all_goals exact (stepIn_typed et ct abi s _ d.args d.sym hne).bind fun _ => .ok _

/-- the evaluation yields one row per location carrying directives, in the
order of the (sorted) group list, up to the first error -/
theorem rows_prefix (et ct : Table) (abi : AbiParams) :
    ∀ (st : Option Proc) (gs : List (Loc × List Directive)),
      let r := evalGroups et ct abi st gs
      r.1.map (·.1) = (gs.map (·.1)).take r.1.length ∧ (r.2 = none → r.1.length = gs.length)
  | _, [] => by simp [evalGroups]
  | st, (loc, ds) :: rest => by
    simp only [evalGroups]
    cases h : stepGroup et ct abi st false ds with
    | error e => simp
    | ok r =>
      have ih := rows_prefix et ct abi (finishGroup r) rest
      simp only [List.map_cons, List.length_cons, List.take_succ_cons]
      exact ⟨by rw [ih.1], fun hn => by rw [ih.2 hn]⟩

/-- the state of each row is the fold of all earlier directives: unfolding
equation of the evaluation -/
theorem rows_state (et ct : Table) (abi : AbiParams) (st : Option Proc) (loc : Loc)
    (ds : List Directive) (rest : List (Loc × List Directive)) (r : Option Proc × Bool)
    (h : stepGroup et ct abi st false ds = .ok r) :
    evalGroups et ct abi st ((loc, ds) :: rest) =
      ((loc, finishGroup r) :: (evalGroups et ct abi (finishGroup r) rest).1,
       (evalGroups et ct abi (finishGroup r) rest).2) := by
  simp [evalGroups, h]

/-- the prologue rule: the initial row is the row in effect after the group
that contains `.cfi_startproc`, and is not touched by any other group -/
theorem initial_snapshot (s : Proc) (started : Bool) :
    finishGroup (some s, started) =
      some (if started then { s with initial := s.current } else s) := by
  cases started <;> rfl

/-- address order: blocks are visited in a stable address-sorted order and the
locations of one block in offset order -/
theorem blocks_sorted (blocks : List BlockIn) :
    (sortBy (·.address) blocks).Pairwise (fun a b => a.address ≤ b.address) ∧
    (sortBy (·.address) blocks).Perm blocks :=
  ⟨sortBy_sorted _ _, sortBy_perm _ _⟩

theorem offsets_sorted (m : List (Nat × List Directive)) :
    (sortBy (·.1) m).Pairwise (fun a b => a.1 ≤ b.1) ∧ (sortBy (·.1) m).Perm m :=
  ⟨sortBy_sorted _ _, sortBy_perm _ _⟩

/-- the ABI parameters the evaluator uses (regenerated from `abi._ABIS`) are
the platform's: byte order and pointer size of every ABI, and the psABI return
column where one is fixed -/
theorem abi_matches_platform :
    Gen.abiBasic.all (fun e =>
      Std.platform.lookup e.2.1 == some (e.2.2.2.bo, e.2.2.2.ptr) &&
      (match Std.psabiReturnColumn.find? (fun p => p.1 == e.2.1 && p.2.1 == e.2.2.1) with
       | some p => e.2.2.2.retcol == some (p.2.2 : Int)
       | none => true)) = true := by decide +kernel

/-! ### non-vacuity -/

example : (evaluate Gen.exprTable Gen.cfiTable { retcol := some 16, bo := .little, ptr := 8 }
    [{ idx := 0, address := 16, dirs := some [(0, [⟨".cfi_startproc", [], .nullUuid⟩,
        ⟨".cfi_def_cfa", [7, 8], .nullUuid⟩]), (4, [⟨".cfi_restore", [3], .nullUuid⟩,
        ⟨".cfi_endproc", [], .nullUuid⟩])] }]).2 = none := by decide +kernel

end GtirbVerif.Props.C15
