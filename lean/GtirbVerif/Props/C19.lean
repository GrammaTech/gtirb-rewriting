import GtirbVerif.Model.Symbols.Delete
import GtirbVerif.Lemmas.Basics

/-!
# C19 — delete_symbol removes every trace of the symbol, and only that

* **model** — `Symbols.deleteSymbols` follows `_modify/delete_symbols.py` table by table; the real
  function is run (through `RewritingContext.delete_symbol` + `apply()`) on generated ELF and PE
  modules and compared with the model on every run (correspondence); the real result is also
  scanned directly (no table, expression or CFI directive mentions a deleted symbol, untouched
  entries are untouched, the module serializes).
* **theorems** (this file, for every module and every request): after a successful deletion no
  table mentions a deleted symbol — elfSymbolInfo, elfSymbolTabIdxInfo, elfSymbolVersions
  entries, functionNames, PE import/export lists, symbolForwarding keys and values, CFI
  directives (personality/LSDA get DW_EH_PE_omit), the symbol set, and - for forced symbols -
  the symbolic expressions; everything not asked for is untouched; the call fails exactly when
  an unforced symbol is still used, and with force exactly the expressions using a forced
  symbol are removed; version definitions and requirements are dropped exactly when no
  remaining symbol uses them, the base definition always stays.
-/
namespace GtirbVerif.Props.C19
open GtirbVerif.Symbols

variable {r : Req} {m m' : Mod}

theorem deleteSymbols_ok (h : deleteSymbols r m = .ok m') :
    ∃ ex, deleteExprs r (deleteAux r m).exprs = .ok ex ∧
      m' = { deleteAux r m with exprs := ex, syms := (deleteAux r m).syms.filter (!r.has ·) } := by
  unfold deleteSymbols at h
  simp only [] at h
  split at h
  · cases h
  · rename_i ex hex
    injection h with h
    exact ⟨ex, hex, h.symm⟩

theorem aux_exprs (r : Req) (m : Mod) : (deleteAux r m).exprs = m.exprs := rfl
theorem aux_syms (r : Req) (m : Mod) : (deleteAux r m).syms = m.syms := rfl

private theorem deleteExprs_error_iff {exprs : List Expr} :
    (∃ e, deleteExprs r exprs = .error e) ↔ ∃ e ∈ exprs, ∃ s ∈ e.syms, r.force s = some false := by
  unfold deleteExprs
  cases hfs : exprs.findSome? (fun e => e.syms.find? (fun s => r.force s == some false)) with
  | some s' =>
    obtain ⟨x, hx, hf⟩ := List.exists_of_findSome?_eq_some hfs
    exact iff_of_true ⟨_, rfl⟩ ⟨x, hx, s', List.mem_of_find?_eq_some hf, by simpa using List.find?_some hf⟩
  | none =>
    refine iff_of_false (fun ⟨_, he⟩ => nomatch he) fun ⟨x, hx, s, hs, hf⟩ => ?_
    exact List.find?_eq_none.mp (List.findSome?_eq_none_iff.mp hfs x hx) s hs (by simp [hf])

theorem deleteExprs_ok {exprs ex : List Expr} (h : deleteExprs r exprs = .ok ex) :
    ex = exprs.filter (fun e => !(e.syms.any (fun s => r.force s == some true))) ∧
    ∀ e ∈ exprs, ∀ s ∈ e.syms, r.force s ≠ some false := by
  refine ⟨?_, fun e he s hs hf => ?_⟩
  · unfold deleteExprs at h
    split at h
    · cases h
    · cases h; rfl
  · obtain ⟨_, herr⟩ := deleteExprs_error_iff.mpr ⟨e, he, s, hs, hf⟩
    rw [h] at herr; cases herr

/-- **no trace**: after a successful deletion nothing mentions a deleted symbol -/
theorem no_trace (h : deleteSymbols r m = .ok m') (s : Nat) (hs : r.has s = true) :
    s ∉ m'.syms ∧ s ∉ m'.elfSymInfo ∧ s ∉ m'.elfTabIdx ∧ (∀ v, (s, v) ∉ m'.verEntries) ∧
    (∀ f, (f, s) ∉ m'.funcNames) ∧ s ∉ m'.peImports ∧ s ∉ m'.peExports ∧
    (∀ k v, (k, v) ∈ m'.forwarding → k ≠ s ∧ v ≠ s) ∧
    (∀ d ∈ m'.cfi, d.sym ≠ some s) := by
  obtain ⟨ex, hex, rfl⟩ := deleteSymbols_ok h
  -- every table but the CFI directives is filtered by a test that rejects `s`
  have hno : (!r.has s) = false := by rw [hs]; rfl
  refine ⟨not_mem_filter hno, not_mem_filter hno, not_mem_filter hno, fun _ => not_mem_filter hno,
    fun _ => not_mem_filter hno, not_mem_filter hno, not_mem_filter hno, fun k v hkv => ?_, fun d hd => ?_⟩
  · have := (List.mem_filter.mp (show (k, v) ∈ m.forwarding.filter (fun (k, v) => !(r.has k || r.has v)) from hkv)).2
    constructor <;> rintro rfl <;> simp [hs] at this
  · obtain ⟨d0, _, rfl⟩ := List.mem_map.mp (show d ∈ updateCfi r m.cfi from hd)
    cases hsym : d0.sym with
    | none => simp [hsym]
    | some s0 =>
      by_cases h0 : r.has s0 = true
      · simp only [h0, if_true]
        split <;> simp
      · simp only [hsym, h0, Bool.false_eq_true, if_false]
        rintro ⟨rfl⟩
        exact h0 hs

/-- a forced deletion removes exactly the expressions that use a forced symbol; without error no
expression uses an unforced symbol of the request -/
theorem expressions (h : deleteSymbols r m = .ok m') :
    m'.exprs = m.exprs.filter (fun e => !(e.syms.any (fun s => r.force s == some true))) ∧
    ∀ e ∈ m.exprs, ∀ s ∈ e.syms, r.force s ≠ some false := by
  obtain ⟨ex, hex, rfl⟩ := deleteSymbols_ok h
  exact deleteExprs_ok hex

/-- the call fails exactly when some expression still uses a symbol whose deletion was not forced -/
theorem fails_iff_unforced_use :
    (∃ e, deleteSymbols r m = .error e) ↔ ∃ e ∈ m.exprs, ∃ s ∈ e.syms, r.force s = some false := by
  rw [← deleteExprs_error_iff, ← aux_exprs r m]
  unfold deleteSymbols
  simp only []
  cases deleteExprs r (deleteAux r m).exprs with
  | error e => simp
  | ok ex => simp

/-- **only that**: entries that do not involve a deleted symbol are untouched, in order -/
theorem others_untouched (h : deleteSymbols r m = .ok m') :
    m'.elfSymInfo = m.elfSymInfo.filter (!r.has ·) ∧ m'.elfTabIdx = m.elfTabIdx.filter (!r.has ·) ∧
    m'.verEntries = m.verEntries.filter (fun (s, _) => !r.has s) ∧
    m'.funcNames = m.funcNames.filter (fun (_, y) => !r.has y) ∧
    m'.peImports = m.peImports.filter (!r.has ·) ∧ m'.peExports = m.peExports.filter (!r.has ·) ∧
    m'.forwarding = m.forwarding.filter (fun (k, v) => !(r.has k || r.has v)) ∧
    m'.syms = m.syms.filter (!r.has ·) ∧
    (∀ d ∈ m.cfi, (∀ s, d.sym = some s → r.has s = false) → d ∈ m'.cfi) := by
  obtain ⟨ex, hex, rfl⟩ := deleteSymbols_ok h
  refine ⟨rfl, rfl, rfl, rfl, rfl, rfl, rfl, rfl, ?_⟩
  intro d hd hno
  show d ∈ updateCfi r m.cfi
  unfold updateCfi
  refine List.mem_map.mpr ⟨d, hd, ?_⟩
  cases hsym : d.sym with
  | none => rfl
  | some s => simp [hno s hsym]

/-- **version garbage collection**: a definition stays iff a remaining symbol uses it or it is the
base definition; a required version stays iff a remaining symbol uses it; a library goes iff it
had versions and all of them went -/
theorem version_gc (h : deleteSymbols r m = .ok m') :
    let keep := (m.verEntries.filter (fun (s, _) => !r.has s)).map (·.2)
    m'.verDefs = m.verDefs.filter (fun (id, flags) => keep.contains id || flags % 2 == 1) ∧
    m'.verReqs = m.verReqs.filterMap (fun (lib, ids) =>
      if (ids.filter keep.contains).isEmpty && !ids.isEmpty then none else some (lib, ids.filter keep.contains)) := by
  obtain ⟨ex, hex, rfl⟩ := deleteSymbols_ok h
  exact ⟨rfl, rfl⟩

/-- personality / LSDA directives that named a deleted symbol carry DW_EH_PE_omit -/
theorem personality_gets_omit (s : Nat) (hs : r.has s = true) (d : Cfi) (hd : d ∈ m.cfi) (hsym : d.sym = some s)
    (hn : d.name = ".cfi_personality" ∨ d.name = ".cfi_lsda") :
    ({ d with args := [omitEncoding], sym := none } : Cfi) ∈ updateCfi r m.cfi := by
  unfold updateCfi
  refine List.mem_map.mpr ⟨d, hd, ?_⟩
  simp only [hsym, hs, if_true]
  rcases hn with hn | hn <;> simp [hn]

/-! ### non-vacuity -/
private def demo : Mod :=
  { syms := [1, 2, 3], exprs := [⟨0, 4, [1]⟩, ⟨0, 9, [2]⟩], elfSymInfo := [1, 2, 3], elfTabIdx := [1],
    verDefs := [(1, 3), (2, 0), (5, 0)], verReqs := [("libc", [3, 4]), ("libm", [6])], verEntries := [(1, 2), (2, 3), (3, 5)],
    funcNames := [(10, 1)], peImports := [], peExports := [], forwarding := [(1, 2), (3, 2)],
    cfi := [⟨0, ".cfi_personality", [155], some 1⟩] }
example : (deleteSymbols [(1, true)] demo).map (fun x => (x.syms, x.exprs.length, x.verDefs, x.verReqs, x.forwarding, x.cfi.map (·.args)))
    = .ok ([2, 3], 1, [(1, 3), (5, 0)], [("libc", [3])], [(3, 2)], [[255]]) := by rfl
example : deleteSymbols [(1, false)] demo = .error (.usesRemaining 1) := by rfl

end GtirbVerif.Props.C19
