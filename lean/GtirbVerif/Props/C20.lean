import GtirbVerif.Lemmas.RefCache
import GtirbVerif.Lemmas.RetCache
import GtirbVerif.Lemmas.OMap
import GtirbVerif.Lemmas.BOrd

/-!
# C20 — internal containers behave like their simple abstract models
-/
namespace GtirbVerif.Props.C20
open GtirbVerif.Adt

/-! ## IdentitySet = a set of identities -/

def idSpec (f : Nat → Bool) : IdOp → Nat → Bool
  | .add x => fun y => if y = x then true else f y
  | .discard x => fun y => if y = x then false else f y

theorem idset_step (s : IdSet) (f : Nat → Bool) (h : ∀ y, s.contains y = f y) (hn : s.ids.Nodup)
    (op : IdOp) : (∀ y, (s.step op).contains y = idSpec f op y) ∧ (s.step op).ids.Nodup := by
  cases op with
  | add x =>
    have hids : (s.add x).ids = if x ∈ s.ids then s.ids else s.ids ++ [x] := by
      unfold IdSet.add; split <;> rfl
    refine ⟨fun y => ?_, hids ▸ nodup_addNew hn x⟩
    simp only [IdSet.step, IdSet.contains, hids, mem_addNew, idSpec, ← h y]
    by_cases hy : y = x <;> simp [hy]
  | discard x =>
    refine ⟨fun y => ?_, hn.filter _⟩
    simp only [IdSet.step, IdSet.discard, IdSet.contains, List.mem_filter, bne_iff_ne, idSpec, ← h y]
    by_cases hy : y = x <;> simp [hy]

/-- from any state that agrees with a specification state the identity set keeps agreeing -/
theorem idset_run (ops : List IdOp) (s : IdSet) (f : Nat → Bool) (h : ∀ y, s.contains y = f y)
    (hn : s.ids.Nodup) :
    (∀ y, (ops.foldl IdSet.step s).contains y = (ops.foldl idSpec f) y) ∧
    (ops.foldl IdSet.step s).ids.Nodup := by
  induction ops generalizing s f with
  | nil => exact ⟨h, hn⟩
  | cons op ops ih =>
    have := idset_step s f h hn op
    exact ih _ _ this.1 this.2

/-- **for every history** the identity set is the set of identities the history
denotes, and its length is the number of members (no duplicates) -/
theorem identityset_refines (ops : List IdOp) :
    (∀ y, (ops.foldl IdSet.step {}).contains y = (ops.foldl idSpec (fun _ => false)) y) ∧
    (ops.foldl IdSet.step {}).ids.Nodup :=
  idset_run ops {} _ (by intro y; simp [IdSet.contains]) (by simp)

/-! ## ReferenceCache = assigning `Symbol.referent` directly -/

inductive Obs
  | done
  | referent (r : Option Nat)
  | symbols (ys : List Nat)

/-- the model's transition; `none` = model fuel exhausted (never observed;
the termination bound of the two loops is not proved) -/
def stepRC (c : RC) : RcOp → Option (Except AdtErr (RC × Obs))
  | .retarget b t e => some ((c.retarget b t e).map (fun c' => (c', Obs.done)))
  | .setReferent s r e => some (.ok (c.setReferent s r e, .done))
  | .getReferent s => some ((c.getReferent s).map (fun p => (p.2, Obs.referent p.1)))
  | .getReferences b k => (c.getReferences b k).map (fun p => .ok (p.1, .symbols p.2))
  | .apply => c.apply.map (fun c' => .ok (c', .done))

def opInRange (n : Nat) : RcOp → Prop
  | .setReferent s _ _ => s < n
  | .getReferent s => s < n
  | _ => True

def ObsOK (sp : RSpec) : RcOp → Obs → Prop
  | .getReferent s, .referent r => r = sp.ref s
  | .getReferences b k, .symbols ys =>
      ys.Nodup ∧ (∀ y ∈ ys, sp.ref y = some b) ∧ ys.length ≤ k ∧
      (ys.length < k → ∀ s, sp.ref s = some b → s ∈ ys)
  | .retarget _ _ _, .done => True
  | .setReferent _ _ _, .done => True
  | .apply, .done => True
  | _, _ => False

private theorem map_eq_ok {ε α β} {f : α → β} {x : Except ε α} {b : β} :
    x.map f = .ok b ↔ ∃ a, x = .ok a ∧ f a = b := by
  cases x <;> simp [Except.map]

private theorem map_eq_error {ε α β} {f : α → β} {x : Except ε α} {e : ε} :
    x.map f = .error e ↔ x = .error e := by
  cases x <;> simp [Except.map]

private theorem step_sim {N : Nat} {c : RC} {sp : RSpec} (h : Sim N c sp) (op : RcOp)
    (hr : opInRange N op) {c' : RC} {obs : Obs} (hc : stepRC c op = some (.ok (c', obs))) :
    ∃ sp', sp.step N op = .ok sp' ∧ Sim N c' sp' ∧ ObsOK sp' op obs := by
  cases op with
  | retarget b t e =>
    simp only [stepRC, Option.some.injEq, map_eq_ok, Prod.mk.injEq] at hc
    obtain ⟨c1, hrt, rfl, rfl⟩ := hc
    obtain ⟨sp', q1, q2⟩ := (retarget_refines h b t e).1 c1 hrt
    exact ⟨sp', q1, q2, trivial⟩
  | setReferent s r e =>
    simp only [stepRC, Option.some.injEq, Except.ok.injEq, Prod.mk.injEq] at hc
    obtain ⟨rfl, rfl⟩ := hc
    exact ⟨_, rfl, setReferent_sim h hr r e, trivial⟩
  | getReferent s =>
    simp only [stepRC, Option.some.injEq, map_eq_ok, Prod.mk.injEq] at hc
    obtain ⟨⟨res, c1⟩, hg, rfl, rfl⟩ := hc
    obtain ⟨q1, q2, _⟩ := getReferent_ok h hg
    exact ⟨sp, rfl, q2, q1⟩
  | getReferences b k =>
    simp only [stepRC, Option.map_eq_some_iff, Except.ok.injEq, Prod.mk.injEq] at hc
    obtain ⟨⟨c1, ys⟩, hg, rfl, rfl⟩ := hc
    obtain ⟨g1, g2, g3⟩ := getReferences_ok h hg
    exact ⟨sp, rfl, g1, g2.nodup, g2.refer, g3⟩
  | apply =>
    simp only [stepRC, Option.map_eq_some_iff, Except.ok.injEq, Prod.mk.injEq] at hc
    obtain ⟨c1, hg, rfl, rfl⟩ := hc
    exact ⟨sp, rfl, (apply_ok h hg).1, trivial⟩

/-- of the model's operations only `retarget` can fail an assertion -/
private theorem step_refusal {N : Nat} {c : RC} {sp : RSpec} (h : Sim N c sp) (op : RcOp)
    (hc : stepRC c op = some (.error .assertion)) : sp.step N op = .error .assertion := by
  cases op with
  | retarget b t e => exact (retarget_refines h b t e).2 (map_eq_error.mp (Option.some.inj hc))
  | getReferent s => exact absurd (map_eq_error.mp (Option.some.inj hc)) (getReferent_ne_assertion c s)
  | _ => simp [stepRC] at hc

/-- **one operation**: the concrete forest keeps standing for the abstract
assignment, results agree, and the only refusal is the specified one -/
theorem refcache_step {c : RC} {sp : RSpec} (hi : Inv c) (ha : Abs c sp) (op : RcOp)
    (hr : opInRange c.nSyms op) :
    (∀ c' obs, stepRC c op = some (.ok (c', obs)) →
      ∃ sp', sp.step c.nSyms op = .ok sp' ∧ Inv c' ∧ Abs c' sp' ∧ c'.nSyms = c.nSyms ∧
        ObsOK sp' op obs) ∧
    (stepRC c op = some (.error .assertion) → sp.step c.nSyms op = .error .assertion) := by
  have h := sim_iff.mpr ⟨hi, ha, rfl⟩
  refine ⟨fun c' obs hs => ?_, step_refusal h op⟩
  obtain ⟨sp', q1, q2, q3⟩ := step_sim h op hr hs
  obtain ⟨r1, r2, r3⟩ := sim_iff.mp q2
  exact ⟨sp', q1, r1, r2, r3, q3⟩

def runRC : RC → List RcOp → Option (Except AdtErr (RC × List Obs))
  | c, [] => some (.ok (c, []))
  | c, op :: ops =>
    match stepRC c op with
    | none => none
    | some (.error e) => some (.error e)
    | some (.ok (c', o)) =>
      match runRC c' ops with
      | none => none
      | some (.error e) => some (.error e)
      | some (.ok (c'', os)) => some (.ok (c'', o :: os))

def AllObs (n : Nat) : RSpec → List RcOp → List Obs → Prop
  | _, [], [] => True
  | sp, op :: ops, o :: os =>
    match sp.step n op with
    | .ok sp' => ObsOK sp' op o ∧ AllObs n sp' ops os
    | .error _ => False
  | _, _, _ => False

/-- a completed history, from any related pair: the specification completes it too, `sp'` is the
state it reaches, and every observation on the way is the specification's -/
private theorem run_sim {N : Nat} : ∀ (ops : List RcOp) {c : RC} {sp : RSpec}, Sim N c sp →
    (∀ op ∈ ops, opInRange N op) → ∀ {c' obs}, runRC c ops = some (.ok (c', obs)) →
    ∃ sp', ops.foldlM (·.step N) sp = .ok sp' ∧ Sim N c' sp' ∧ AllObs N sp ops obs
  | [], c, sp, h, _, c', obs, hrun => by
    cases hrun
    exact ⟨sp, rfl, h, trivial⟩
  | op :: ops, c, sp, h, hr, c', obs, hrun => by
    -- `runRC` completes only if the first step and the rest of the run do
    simp only [runRC] at hrun
    split at hrun
    · cases hrun
    · cases hrun
    · rename_i c1 o hs
      obtain ⟨sp1, q1, q2, q3⟩ := step_sim h op (hr op List.mem_cons_self) hs
      split at hrun
      · cases hrun
      · cases hrun
      · rename_i c2 os hrest
        cases hrun
        obtain ⟨sp', r1, r2, r3⟩ := run_sim ops q2 (fun op' h' => hr op' (List.mem_cons_of_mem _ h')) hrest
        refine ⟨sp', by rw [List.foldlM_cons, q1]; exact r1, r2, ?_⟩
        simp only [AllObs, q1]
        exact ⟨q3, r3⟩

/-- **for every finite sequence of operations** (retarget cycles, self-retargets,
repeated and no-op operations, `get_references` consumed to any prefix and
abandoned, `apply` anywhere): whenever the cache completes the history, every
result it gave is the result of assigning `Symbol.referent` directly, and the
forest still stands for that assignment -/
theorem refcache_refines : ∀ (ops : List RcOp) (c : RC) (sp : RSpec), Inv c → Abs c sp →
    (∀ op ∈ ops, opInRange c.nSyms op) → ∀ c' obs, runRC c ops = some (.ok (c', obs)) →
    Inv c' ∧ (∃ sp', Abs c' sp') ∧ AllObs c.nSyms sp ops obs := by
  intro ops c sp hi ha hr c' obs h
  obtain ⟨sp', _, hs, ho⟩ := run_sim ops (sim_iff.mpr ⟨hi, ha, rfl⟩) hr h
  exact ⟨(sim_iff.mp hs).1, ⟨sp', (sim_iff.mp hs).2.1⟩, ho⟩

/-- the cache refuses (`assert to_block`) only when assigning directly is
impossible too: some symbol refers to the block and there is no target -/
theorem refcache_refusal {c : RC} {sp : RSpec} (hi : Inv c) (ha : Abs c sp) (op : RcOp)
    (hr : opInRange c.nSyms op) (h : stepRC c op = some (.error .assertion)) :
    sp.step c.nSyms op = .error .assertion :=
  (refcache_step hi ha op hr).2 h

/-- the empty cache over symbols that all have direct referents is a valid start -/
theorem refcache_init (n : Nat) : Inv { nSyms := n } ∧ Abs { nSyms := n } {} :=
  ⟨inv_init n, abs_init n⟩

/-- after `apply()` nothing is indirect and every symbol's own fields hold the
abstract assignment: no symbol is stranded without its referent -/
theorem refcache_apply_direct {c c' : RC} {sp : RSpec} (hi : Inv c) (ha : Abs c sp)
    (h : c.apply = some c') :
    (∀ s, c'.referents s = none) ∧ (∀ s, c'.direct s = sp.ref s ∧ c'.atEnd s = sp.atEnd s) :=
  (apply_ok (sim_iff.mpr ⟨hi, ha, rfl⟩) h).2

/-! ## ReturnEdgeCache = a scan of the CFG -/

/-- from any state that satisfies the invariant: it is kept, and the edge component is a plain
edge set under the same operations -/
theorem retcache_run (ops : List RetOp) (c : RetCache) (h : RetInv c) :
    RetInv (ops.foldl RetCache.step c) ∧
    (ops.foldl RetCache.step c).edges = ops.foldl cfgStep c.edges :=
  ⟨foldl_inv RetInv RetCache.step (fun _ op h => retInv_step h op) ops c h,
    (List.foldl_hom RetCache.edges (H := fun c op => (edges_step c op).symm)).symm⟩

/-- **for every history** both indices are exactly the scans of the edge set
(membership, key presence = non-emptiness, no duplicates) and the edge set
itself evolves as a plain set of edges -/
theorem retcache_refines (ops : List RetOp) :
    RetInv (ops.foldl RetCache.step {}) ∧
    (ops.foldl RetCache.step {}).edges = ops.foldl cfgStep [] :=
  retcache_run ops {} retInv_empty

/-- the three queries, read off the invariant -/
theorem retcache_queries {c : RetCache} (h : RetInv c) (b : CfgNode) :
    (∀ e, e ∈ c.blockReturn b ↔ e ∈ specBlockReturn c.edges b) ∧
    (∀ e, e ∈ c.blockProxyReturn b ↔ e ∈ specBlockProxyReturn c.edges b) ∧
    (c.anyReturn b = true ↔ specBlockReturn c.edges b ≠ []) := by
  have hsel : ∀ e, e ∈ specBlockReturn c.edges b ↔ e ∈ c.edges ∧ e.isReturn = true ∧ e.src = b :=
    fun e => by simp [specBlockReturn]
  refine ⟨fun e => by rw [RetCache.blockReturn, (h.ret b).1 e, hsel], fun e => ?_, ?_⟩
  · rw [RetCache.blockProxyReturn, (h.pret b).1 e]
    simp [specBlockProxyReturn, and_assoc]
  · rw [RetCache.anyReturn, (h.ret b).2.1, ← exists_congr hsel]
    exact ⟨fun hex => hex.elim fun _ he => List.ne_nil_of_mem he, List.exists_mem_of_ne_nil _⟩

/-! ## make_return_cache -/

theorem cfg_update_nodup : ∀ (l acc : List Edge), (acc ++ l).Nodup →
    l.foldl (fun s e => if e ∈ s then s else s ++ [e]) acc = acc ++ l
  | [], acc, _ => by simp
  | e :: l, acc, h => by
    have he : e ∉ acc := by
      intro hin
      exact (List.nodup_append.mp h).2.2 e hin e List.mem_cons_self rfl
    simp only [List.foldl_cons, he, ↓reduceIte]
    rw [cfg_update_nodup l (acc ++ [e]) (by simpa using h)]
    simp

/-- **leaving the return-cache context**: whatever the body did (through the
cache, through a stale reference to the original CFG object, by re-assigning
`ir.cfg`, raising or not) `ir.cfg` is the caller's object again and holds
exactly the cache's final edges, i.e. the edges a plain CFG would hold after
the body's cache operations; CFGModifiedError is raised iff the body finished
normally and (the xor-hash of the original object changed or `ir.cfg` was not
the cache at exit). The hash is weak: a modification that leaves the xor
unchanged is *not* detected — stated here, not hidden. -/
theorem return_cache_context (hsh : Edge → Nat) (e0 : List Edge) (ops : List BodyOp) (raises : Bool) :
    let r := runReturnCtx hsh e0 ops raises
    let s := ops.foldl CtxState.body (CtxState.init e0)
    r.irCfgIsOld = true ∧ r.oldEdges = s.cache.edges ∧
    (r.raised = if raises then some .bodyRaised
      else if weakHash hsh s.old != weakHash hsh (CtxState.init e0).old || !s.irIsCache
      then some .cfgModified else none) := by
  refine ⟨rfl, ?_, ?_⟩
  · -- the cache's edge list has no duplicates, so copying it into the cleared CFG is the identity
    have : RetInv (ops.foldl CtxState.body (CtxState.init e0)).cache := by
      refine foldl_inv (fun s => RetInv s.cache) CtxState.body (fun s op h => ?_) ops (CtxState.init e0)
        (retInv_update retInv_empty _)
      cases op with
      | cache op => exact retInv_step h op
      | _ => exact h
    exact (cfg_update_nodup _ [] (by simpa using this.nodup)).trans (List.nil_append _)
  · simp only [runReturnCtx]
    cases raises
    · simp only [Bool.false_eq_true, ↓reduceIte, Bool.or_eq_true]
      split <;> simp [*]
    · rfl

/-! ## BlockOrdering = a plain list of disjoint chains -/

theorem ordering_empty : Repr {} [] := by
  refine ⟨by simp, by simp, by simp, by simp⟩

/-- `adjacent_blocks` = the neighbours in the chain; KeyError for unknown blocks -/
theorem ordering_adjacent {o : BOrd} {cs : Chains} (h : Repr o cs) (b : Nat) :
    (b ∉ cs.flatten → o.adjacent b = .error .keyError) ∧
    (∀ pre post, (pre ++ b :: post) ∈ cs → o.adjacent b = .ok (pre.getLast?, post.head?)) := by
  constructor
  · intro hb
    simp [BOrd.adjacent, h.mem_false hb]
  · intro pre post hin
    have hm : o.mem b = true := (h.mem b).mpr (List.mem_flatten.mpr ⟨_, hin, by simp⟩)
    have := (h.linked _ hin).neighbours
    simp [BOrd.adjacent, hm, this.1, this.2]

theorem ordering_remove {o : BOrd} {cs1 cs2 : Chains} {pre post : List Nat} {b : Nat}
    (h : Repr o (cs1 ++ (pre ++ b :: post) :: cs2)) :
    ∃ o', o.remove b = .ok o' ∧
      Repr o' (cs1 ++ (if pre ++ post = [] then [] else [pre ++ post]) ++ cs2) := by
  have hm : o.mem b = true := (h.mem b).mpr (by simp)
  exact ⟨_, by simp only [BOrd.remove, hm, ↓reduceIte], removeCore_spec h⟩

theorem ordering_insert_after {o : BOrd} {cs1 cs2 : Chains} {pre post : List Nat} {a : Nat}
    (bs : List Nat) (h : Repr o (cs1 ++ (pre ++ a :: post) :: cs2))
    (hnot : ∀ x ∈ bs, x ∉ (cs1 ++ (pre ++ a :: post) :: cs2).flatten) (hnd : bs.Nodup) :
    ∃ o', o.primitiveInsert (some a) bs = .ok o' ∧
      Repr o' (cs1 ++ (pre ++ a :: (bs ++ post)) :: cs2) := by
  have hma : o.mem a = true := (h.mem a).mpr (by simp)
  exact ⟨_, by simp [BOrd.primitiveInsert, h.any_mem hnot, hma, hnd],
    insertLoop_spec bs h (fun x hx => h.mem_false (hnot x hx)) hnd⟩

theorem ordering_add_detached {o : BOrd} {cs : Chains} (b : Nat) (bs : List Nat) (h : Repr o cs)
    (hnot : ∀ x ∈ b :: bs, x ∉ cs.flatten) (hnd : (b :: bs).Nodup) :
    ∃ o', o.primitiveInsert none (b :: bs) = .ok o' ∧ Repr o' (cs ++ [b :: bs]) := by
  refine ⟨_, ?_, insertLoop_none_spec b bs h (fun x hx => h.mem_false (hnot x hx)) hnd⟩
  unfold BOrd.primitiveInsert
  rw [h.any_mem hnot]
  simp [hnd]

theorem ordering_refusals {o : BOrd} {cs : Chains} (h : Repr o cs) (after : Option Nat)
    (bs : List Nat) :
    ((∃ x ∈ bs, x ∈ cs.flatten) → o.primitiveInsert after bs = .error .valueError) ∧
    (¬ bs.Nodup → o.primitiveInsert after bs = .error .valueError) ∧
    ((∀ x ∈ bs, x ∉ cs.flatten) → bs.Nodup → ∀ a, after = some a → a ∉ cs.flatten →
      o.primitiveInsert after bs = .error .keyError) := by
  refine ⟨?_, ?_, ?_⟩
  · rintro ⟨x, hx, hxm⟩
    have : bs.any o.mem = true := List.any_eq_true.mpr ⟨x, hx, (h.mem x).mpr hxm⟩
    simp [BOrd.primitiveInsert, this]
  · intro hnd
    simp [BOrd.primitiveInsert, hnd]
  · intro hnot hnd a ha hna
    simp [BOrd.primitiveInsert, h.any_mem hnot, ha, h.mem_false hna, hnd]

theorem ordering_remove_unknown {o : BOrd} {cs : Chains} (h : Repr o cs) (b : Nat)
    (hb : b ∉ cs.flatten) : o.remove b = .error .keyError := by
  simp [BOrd.remove, h.mem_false hb]

/-! ## OffsetMapping = a dictionary keyed by (element, displacement) -/

theorem offsetmap_get (m : OMap) (e d : Nat) :
    m.getO e d = match (absOMap m).val e d with
      | some v => .ok v
      | none => .error .keyError := by
  simp only [OMap.getO, absOMap]
  cases dictGet e m.data with
  | none => rfl
  | some sub => simp only []; cases dictGet d sub <;> simp

theorem offsetmap_contains (m : OMap) (e d : Nat) :
    m.containsO e d = ((absOMap m).val e d).isSome ∧ m.containsE e = (absOMap m).elem e := by
  refine ⟨?_, rfl⟩
  simp only [OMap.containsO, absOMap]
  cases dictGet e m.data <;> rfl

theorem offsetmap_set_element (m : OMap) (e : Nat) (sub : SubDict) :
    (absOMap (m.setE e sub)).val = (fun e' d' => if e' = e then dictGet d' sub else (absOMap m).val e' d') ∧
    (absOMap (m.setE e sub)).elem = (fun e' => if e' = e then true else (absOMap m).elem e') := by
  simp only [OMap.setE, absOMap, dictGet_dictSet]
  constructor
  · funext e' d'
    by_cases he : e' = e <;> simp [he]
  · funext e'
    by_cases he : e' = e <;> simp [he]

theorem offsetmap_set (m : OMap) (e d v : Nat) :
    (absOMap (m.setO e d v)).val = (fun e' d' => if e' = e ∧ d' = d then some v else (absOMap m).val e' d') ∧
    (absOMap (m.setO e d v)).elem = (fun e' => if e' = e then true else (absOMap m).elem e') := by
  -- an assignment by element, of the element's dictionary with one entry set
  have hs : m.setO e d v = m.setE e (dictSet d v ((dictGet e m.data).getD [])) := by
    unfold OMap.setO
    cases h : dictGet e m.data <;> rfl
  rw [hs, (offsetmap_set_element _ _ _).1, (offsetmap_set_element _ _ _).2]
  refine ⟨?_, rfl⟩
  funext e' d'
  by_cases he : e' = e
  · subst he
    cases h : dictGet e' m.data <;> simp [absOMap, h, dictGet_dictSet, dictGet]
  · simp [he]

theorem offsetmap_del (m : OMap) (e d : Nat) :
    match m.delO e d with
    | .error err => err = .keyError ∧ (absOMap m).val e d = none
    | .ok m' => (absOMap m).val e d ≠ none ∧
        (absOMap m').val = (fun e' d' => if e' = e ∧ d' = d then none else (absOMap m).val e' d') ∧
        (absOMap m').elem = (absOMap m).elem := by
  unfold OMap.delO
  cases h : dictGet e m.data with
  | none => simp [absOMap, h]
  | some sub =>
    have hval : (absOMap m).val e = fun d' => dictGet d' sub := by simp [absOMap, h]
    dsimp only
    cases h2 : dictGet d sub with
    | none => simp [hval, h2]
    | some v =>
      -- an assignment by element, of the element's dictionary with one entry deleted
      obtain ⟨h3, h4⟩ := offsetmap_set_element m e (dictDel d sub)
      refine ⟨by simp [hval, h2], h3.trans ?_, h4.trans ?_⟩
      · funext e' d'
        by_cases he : e' = e
        · subst he; simp [hval, dictGet_dictDel]
        · simp [he]
      · funext e'
        by_cases he : e' = e <;> simp [he, absOMap, h]

theorem offsetmap_del_element (m : OMap) (e : Nat) :
    match m.delE e with
    | .error err => err = .keyError ∧ (absOMap m).elem e = false
    | .ok m' => (absOMap m).elem e = true ∧
        (absOMap m').val = (fun e' d' => if e' = e then none else (absOMap m).val e' d') ∧
        (absOMap m').elem = (fun e' => if e' = e then false else (absOMap m).elem e') := by
  simp only [OMap.delE, absOMap]
  cases h : dictGet e m.data with
  | none => simp
  | some sub =>
    simp only [Option.isSome_some, true_and, dictGet_dictDel]
    constructor
    · funext e' d'
      by_cases he : e' = e <;> simp [he]
    · funext e'
      by_cases he : e' = e <;> simp [he]

/-! ## non-vacuity -/

/-- a cycle of retargets A→B, B→A followed by a read is a history the model
completes (the hypotheses of `refcache_refines` are met) -/
example : (match runRC (({ nSyms := 2 } : RC).setReferent 0 (some 0) false)
    [.retarget 0 (some 1) false, .retarget 1 (some 0) true, .getReferent 0, .getReferences 0 1, .apply]
    with | some (.ok _) => true | _ => false) = true := by
  decide +kernel

example : RetInv ((({} : RetCache).add ⟨.block 0, .proxy 0, some ⟨3, false, true⟩⟩).discard
    ⟨.block 0, .proxy 0, some ⟨3, false, true⟩⟩) :=
  retInv_discard (retInv_add retInv_empty _) _

end GtirbVerif.Props.C20
