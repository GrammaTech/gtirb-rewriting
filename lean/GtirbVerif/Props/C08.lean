import GtirbVerif.Lemmas.IRCfi
import GtirbVerif.Lemmas.IRAnn
import GtirbVerif.Spec.CfiCheck

/-!
# C08 — rewriting preserves call-frame (unwind) information

* **specification** — `Listing.checkCfi` (Spec/CfiCheck.lean) relates the evaluation of the CFI
  directives before and after the rewrite (real `evaluate_cfi_directives`, whose agreement with
  DWARF is C15) through the listing's byte map: evaluation still succeeds, every surviving
  instruction is inside a procedure iff it was, without deletions its unwind state is unchanged,
  procedures correspond one to one and in order, inserted code inside a procedure (its very end
  included) is covered, starts with the state of the insertion point and keeps its own directives.
* **model** — `splitCfi` / `splitAtEndproc`, `joinCfi`, `IR.requiredCfi`, `IR.removeCfi`, the patch's
  directives in `IR.addPatchAux`; compared with the real code after every recorded operation.
* **theorems** (this file): whatever `_required_cfi_directives` keeps of a removed block, the kept
  stream opens and closes CFI procedures exactly as the block's whole stream did, from either
  state (so no startproc/endproc is lost, duplicated or unbalanced by a deletion); at a split
  point the directives divide, in order, right before the first `.cfi_endproc` (code inserted at
  the very end of a procedure lands inside it); split and join re-key CFI entries to exactly
  `splitCfi` / `joinCfi` of the old table.
-/
namespace GtirbVerif.Props.C08
open GtirbVerif GtirbVerif.IR

/-- **deleting code never unbalances CFI procedures**: if the removed block's directives take the
evaluator's procedure bookkeeping from `s` to `t`, so do the directives that are kept -/
theorem kept_directives_preserve_procedures (gs : List (List CfiDir)) (s t : Bool)
    (h : procRun (some s) gs.flatten = some t) : procRun (some s) (requiredGroups gs) = some t := by
  have := requiredGroups_inv gs s s t ([], []) rfl h
  unfold requiredGroups
  generalize gs.foldl requiredGroup ([], []) = r at this ⊢
  obtain ⟨R, Q⟩ := r
  cases Q with
  | nil => rw [List.append_nil]; exact this
  | cons q Q => rw [procRun_append, this.1, this.2.2, this.2.1]

/-- **an empty block gives up none of its directives** when it is removed (they describe the
code that follows it - e.g. the closing directives of a patch that ends in a jump): what
`_required_cfi_directives` keeps of a zero-sized code block is its whole stream, in order -/
theorem empty_block_keeps_all (ir : IR) (blk : Block) (hc : blk.isCode = true) (hz : blk.size = 0) :
    ir.requiredCfi blk = ((sortGroups (cfiGet ir.aux.cfi blk.id)).map (·.2)).flatten := by
  unfold IR.requiredCfi
  simp [hc, hz]

/-- the split point: keep ++ move is the original list; nothing that stays in front is an
endproc; what moves behind the inserted code starts with the endproc -/
theorem split_point_rule (ds : List CfiDir) :
    (splitAtEndproc ds).1 ++ (splitAtEndproc ds).2 = ds ∧
    (∀ d ∈ (splitAtEndproc ds).1, d.name ≠ ".cfi_endproc") ∧
    ((splitAtEndproc ds).2 = [] ∨ ∃ d tl, (splitAtEndproc ds).2 = d :: tl ∧ d.name = ".cfi_endproc") := by
  induction ds with
  | nil => simp [splitAtEndproc]
  | cons d ds ih =>
    unfold splitAtEndproc
    by_cases h : d.name = ".cfi_endproc"
    · simp only [h, beq_self_eq_true, if_true]
      exact ⟨by simp, by simp, Or.inr ⟨d, ds, rfl, h⟩⟩
    · have h' : (d.name == ".cfi_endproc") = false := by simp [h]
      simp only [h', Bool.false_eq_true, if_false]
      obtain ⟨h1, h2, h3⟩ := ih
      refine ⟨by simp [h1], ?_, h3⟩
      intro x hx
      rcases List.mem_cons.mp hx with rfl | hx
      · exact h
      · exact h2 x hx

/-- `split_block` and `join_blocks` change the CFI table to exactly `splitCfi` / `joinCfi` of it -/
theorem split_rekeys_cfi {ir ir' : IR} {b off nb : Nat} {added : Bool} {blk : Block}
    (h : ir.splitBlock b off = .ok (ir', nb, added)) (hb : ir.block? b = some blk) :
    ir'.aux.cfi = splitCfi ir.aux.cfi b nb off :=
  (splitBlock_omaps h).2

theorem join_rekeys_cfi {ir ir' : IR} {id1 id2 : Nat} {b1 b2 : Block}
    (h : ir.joinBlocks id1 id2 = .ok ir') (h1 : ir.block? id1 = some b1) (h2 : ir.block? id2 = some b2) :
    ir'.aux.cfi = joinCfi ir.aux.cfi b1.id b1.size id2 :=
  (joinBlocks_omaps h h1 h2).2

/-! ### non-vacuity: a block holding a whole procedure plus the start of the next one -/
private def d (n : String) : CfiDir := { name := n, args := [], sym := none }
example : procRun (some false) [[d ".cfi_startproc", d ".cfi_def_cfa"], [d ".cfi_adjust_cfa_offset"], [d ".cfi_endproc", d ".cfi_startproc", d ".cfi_def_cfa"], [d ".cfi_offset"]].flatten = some true := by decide
example : requiredGroups [[d ".cfi_startproc", d ".cfi_def_cfa"], [d ".cfi_adjust_cfa_offset"], [d ".cfi_endproc", d ".cfi_startproc", d ".cfi_def_cfa"], [d ".cfi_offset"]]
    = [d ".cfi_startproc", d ".cfi_def_cfa"] := by decide

end GtirbVerif.Props.C08
