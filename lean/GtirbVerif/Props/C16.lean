import GtirbVerif.Lemmas.AbiGen
import GtirbVerif.Lemmas.AbiAlloc
import GtirbVerif.Gen.AbiFull
import GtirbVerif.Spec.Platform

/-!
# C16 — patch prologue/epilogue make the patch transparent

For every ABI table regenerated from `abi._ABIS`, every `Constraints` value,
every allocation, every initial machine state (any stack-pointer alignment) and
every patch body that leaves `sp` where it found it and does not touch cells at
or above its entry `sp`.
-/
namespace GtirbVerif.Props.C16
open GtirbVerif GtirbVerif.Abi

/-- which flags claim the family makes (MIPS32 has no condition flags) -/
def flagsClaim (abi : AbiDesc) (c : Constraints) : Bool :=
  match abi.family with
  | .mips32 => false
  | _ => c.clobbersFlags

/-- how far below the entry `sp` every write stays (the red zone of a possible leaf) -/
def guard (abi : AbiDesc) (c : Constraints) (a : Alloc) (leaf : Bool) : Int :=
  match abi.family with
  | .x64 | .ia32 =>
    if (!a.clobbered.isEmpty || c.clobbersFlags || c.alignStack) && abi.redZone != 0 && leaf
    then (abi.redZone : Int) else 0
  | _ => 0

/-- **Transparency.** `prologue; body; reversed epilogue` terminates reading only
slots it wrote itself, restores `sp`, every register of the allocation
(declared clobbers, scratch registers, caller-saved registers on request), the
flags when declared clobbered; it never writes at or above the original `sp`,
and — when the function may be a leaf and the ABI has a red zone — never inside
the red zone. -/
theorem transparent (abi : AbiDesc) (c : Constraints) (a : Alloc) (leaf : Bool)
    {pre post : List Instr} {adj : Option Nat}
    (hgen : prologueEpilogue abi c a leaf = .ok (pre, post, adj))
    {body : M → Option M} (hb : BodyOK abi.cell body) :
    Good abi.cell (wrap abi.cell pre post body) a.clobbered (flagsClaim abi c) (guard abi c a leaf) := by
  cases hf : abi.family <;>
    simp only [prologueEpilogue, AbiDesc.cell, flagsClaim, guard, hf, Except.ok.injEq] at hgen hb ⊢
  case x64 =>
    have := x86_good (W := 8) (by decide) "rax" abi.redZone c a leaf hb
    rwa [hgen] at this
  case ia32 =>
    have := x86_good (W := 4) (by decide) "eax" abi.redZone c a leaf hb
    rwa [hgen] at this
  case arm64 => exact arm64_good c a hgen hb
  case mips32 => exact mips32_good c a hgen hb

/-- the reported `stack_adjustment` is the real displacement at the body's entry
whenever it is not `None`; with `align_stack` the body starts on a 16-byte
boundary on x86-64 (4-byte on IA32); on ARM64 a 16-byte aligned `sp` stays so -/
theorem entry_state (abi : AbiDesc) (c : Constraints) (a : Alloc) (leaf : Bool)
    {pre post : List Instr} {adj : Option Nat}
    (hgen : prologueEpilogue abi c a leaf = .ok (pre, post, adj)) (σ : M) :
    ∃ σ1, run abi.cell pre σ = some σ1 ∧ (∀ d, adj = some d → σ1.sp = σ.sp - d) ∧
      (abi.family = .x64 → c.alignStack = true → σ1.sp % 16 = 0) ∧
      (abi.family = .ia32 → c.alignStack = true → σ1.sp % 4 = 0) ∧
      (abi.family = .arm64 → σ.sp % 16 = 0 → σ1.sp % 16 = 0) := by
  cases hf : abi.family <;>
    simp only [prologueEpilogue, AbiDesc.cell, hf, Except.ok.injEq] at hgen ⊢
  case x64 =>
    obtain ⟨σ1, h1, h2, h3⟩ := x86_entry (W := 8) "rax" abi.redZone c a leaf σ
    rw [hgen] at h1 h2
    exact ⟨σ1, h1, h2, fun _ hal => by have := h3 hal; omega, nofun, nofun⟩
  case ia32 =>
    -- two 4-byte cells below a multiple of 16: `sp` is 8 modulo 16; the IA32 convention asks for 4-byte alignment only
    obtain ⟨σ1, h1, h2, h3⟩ := x86_entry (W := 4) "eax" abi.redZone c a leaf σ
    rw [hgen] at h1 h2
    exact ⟨σ1, h1, h2, nofun, fun _ hal => by have := h3 hal; omega, nofun⟩
  case arm64 =>
    obtain ⟨σ1, d, h1, rfl, h3, h4⟩ := arm64_entry c a hgen σ
    exact ⟨σ1, h1, fun _ hd => Option.some.inj hd ▸ h3, nofun, nofun, fun _ => h4⟩
  case mips32 =>
    obtain ⟨σ1, d, h1, rfl, h3⟩ := mips32_entry c a hgen σ
    exact ⟨σ1, h1, fun _ hd => Option.some.inj hd ▸ h3, nofun, nofun, nofun⟩

/-- the regenerated ABI tables are sane: scratch registers are distinct
general-purpose registers, never the stack pointer, never a register the
platform reserves; the red zone is the psABI's -/
theorem tables_ok :
    Gen.abiAll.all (fun abi =>
      decide abi.scratchRegs.Nodup && decide abi.allRegs.Nodup &&
      abi.scratchRegs.all (fun r => abi.allRegs.contains r) &&
      !abi.scratchRegs.contains abi.stackReg && !abi.callerSaved.contains abi.stackReg &&
      abi.scratchRegs.all (fun r => !(Std.reservedRegs abi.isa).contains r) &&
      (Std.redZone.lookup (abi.isa, abi.ff) == some abi.redZone) &&
      abi.aliases.all (fun p => abi.allRegs.contains p.2)) = true := by
  decide +kernel

theorem lookup_mem : ∀ (l : List (String × String)) (k v : String), l.lookup k = some v → (k, v) ∈ l := by
  intro l k v h
  obtain ⟨l₁, l₂, rfl, _⟩ := List.lookup_eq_some_iff.mp h
  simp

/-- **scratch registers**: as many as requested, distinct, from the scratch
list, never read or clobbered by the patch, all saved; declared clobbers and
(on request) the caller-saved registers are saved -/
theorem scratch_and_clobbers (abi : AbiDesc) (habi : abi ∈ Gen.abiAll) (c : Constraints) (a : Alloc)
    (h : allocate abi c = .ok a) :
    ∃ clob reads, resolveAll abi c.clobbers = .ok clob ∧ resolveAll abi c.reads = .ok reads ∧
      a.scratch.length = c.scratch ∧ a.scratch.Nodup ∧
      (∀ r ∈ a.scratch, r ∈ abi.scratchRegs ∧ r ∉ clob ∧ r ∉ reads ∧ r ∈ a.clobbered ∧
        r ≠ abi.stackReg ∧ r ∉ Std.reservedRegs abi.isa) ∧
      (∀ r ∈ clob, r ∈ a.clobbered) ∧
      (c.preserveCallerSaved = true → ∀ r ∈ abi.callerSaved, r ∈ abi.allRegs → r ∈ a.clobbered) := by
  have ht := tables_ok
  simp only [List.all_eq_true, Bool.and_eq_true, decide_eq_true_eq, Bool.not_eq_true',
    List.contains_eq_mem, decide_eq_false_iff_not] at ht
  obtain ⟨⟨⟨⟨⟨⟨⟨t1, t2⟩, t3⟩, t4⟩, t5⟩, t6⟩, t7⟩, t8⟩ := ht abi habi
  obtain ⟨clob, reads, q1, q2, q3, q4, q5, q6, q7, _, _⟩ :=
    allocate_ok abi c a t1 (fun r hr => by simpa using t3 r hr) h
  refine ⟨clob, reads, q1, q2, q3, q4, ?_, ?_, q7⟩
  · intro r hr
    obtain ⟨p1, p2, p3, p4⟩ := q5 r hr
    refine ⟨p1, p2, p3, p4, ?_, ?_⟩
    · rintro rfl; exact t4 p1
    · have := t6 r p1; simpa using this
  · intro r hr
    apply q6 r hr
    -- a resolved name is one of the ABI's registers
    obtain ⟨n, hn⟩ := resolveAll_mem q1 r hr
    simpa using t8 _ (lookup_mem _ _ _ hn)

/-- the only refusals are KeyError (unknown register name) and ValueError (not
enough scratch registers / an unavailable read register) -/
theorem allocation_refusals (abi : AbiDesc) (c : Constraints) (e : GenErr)
    (h : allocate abi c = .error e) : e = .keyError ∨ e = .valueError := by
  unfold allocate at h
  cases hc : resolveAll abi c.clobbers with
  | error e1 => rw [hc] at h; cases h; exact Or.inl (resolveAll_err hc)
  | ok clob =>
    rw [hc] at h
    cases hr : resolveAll abi c.reads with
    | error e1 => simp only [hr] at h; cases h; exact Or.inl (resolveAll_err hr)
    | ok reads =>
      simp only [hr] at h
      cases hra : removeAll (availAfterClobbers abi clob) reads with
      | error e1 => exact (removeAll_err _ _ _ hra).elim
      | ok avail2 =>
        rw [hra] at h
        simp only [] at h
        split at h
        · cases h; exact Or.inr rfl
        · cases h

/-! ## non-vacuity -/

/-- a body satisfying `BodyOK`: it trashes a register and the flags -/
example : BodyOK 8 (fun σ => some { σ with reg := setReg σ.reg "rbx" 7, flags := 99 }) := by
  intro σ
  exact ⟨_, rfl, rfl, fun _ _ => rfl, by simp, by simp, [], rfl, by simp⟩

example : (prologueEpilogue Gen.abi_X86_64_ELF { clobbersFlags := true, alignStack := true }
    { clobbered := ["rbx"], scratch := [], available := [] } true).toOption.isSome = true := by
  decide +kernel

end GtirbVerif.Props.C16
