import GtirbVerif.Lemmas.IRAnn
import GtirbVerif.Lemmas.IRSymClosed
import GtirbVerif.Lemmas.IRExprs
import GtirbVerif.Props.C20
import GtirbVerif.Spec.WellFormed

/-!
# C05 — the output IR is closed, well-formed and serializable, even on failure

* **specification** — `Listing.checkWellFormed` (Spec/WellFormed.lean): a whole-IR validator —
  blocks inside their intervals, new blocks never overlapping, every CFG endpoint, symbol
  referent, expression / CFI symbol and every key or member of every aux table part of the
  module, zero-sized blocks only where every byte was deleted, every block with an address.
  The driver evaluates it on the real module after `apply()` returns and — closure part — on
  what is left when the k-th patch callback raises, for every k; gtirb's own protobuf writer and
  reader judge serializability.
* **theorems** (this file): the two places where a block leaves the module purge it from the
  tables keyed by whole blocks (`remove_block`, `join_blocks` — the latter only since the repair
  recorded in known_findings.json); offset-keyed entries of a removed block disappear; a removed
  block is in no function table and no symbol stays on it (C02, C06); on failure the two context
  managers leave `ir.cfg` = the caller's object with the live edges and every symbol with its
  referent materialised (proved in C20 for every body and every history, restated here); over
  whole rewrites - `apply()`'s loop over all blocks, patches with any number of extra sections -
  every symbol referent that is a block is a block attached to a byte interval of the module
  (`symbol_referents_are_part_of_the_module`, from Lemmas/IRSymClosed.lean) and every symbolic
  expression names symbols of the module (`expression_symbols_are_part_of_the_module`, from
  Lemmas/IRExprs.lean).
-/
namespace GtirbVerif.Props.C05
open GtirbVerif GtirbVerif.IR GtirbVerif.Adt

/-- `remove_block` (block leaves the module): no alignment entry, no entry in the whole-block
tables of its kind -/
theorem removed_block_leaves_no_table_key {ir ir' : IR} {b : Nat} {px : Bool} {blk : Block}
    (h : ir.removeBlock b px = .ok (ir', true)) (hb : ir.block? b = some blk) :
    alookup b ir'.aux.alignment = none ∧
    (if blk.isCode then alookup b ir'.aux.profile = none ∧ alookup b ir'.aux.sccs = none
     else alookup b ir'.aux.types = none ∧ alookup b ir'.aux.encodings = none) := by
  obtain ⟨sect, _, _, rfl⟩ := removeBlock_ok h hb
  rw [cond_true, setBlock_aux, orderRemove_aux, removeStages_true, ← block?_id hb]
  constructor
  · -- `_remove_alignment` is the last write to the table
    rw [removeCfi_alignment, removeAuxEntries_alignment, core_alignment (removeOutEdges_core _ _)]
    unfold IR.removeEntrypoints
    exact alookup_adel_same _ _
  · -- `_remove_aux_data_entries` is the only stage that writes the whole-block tables
    generalize IR.removeOutEdges _ blk = y
    unfold IR.removeCfi IR.removeAuxEntries
    cases blk.isCode
    · exact ⟨alookup_adel_same _ _, alookup_adel_same _ _⟩
    · exact ⟨alookup_adel_same _ _, alookup_adel_same _ _⟩

/-- … and no entry in any offset-keyed table -/
theorem removed_block_leaves_no_offset_entry {ir ir' : IR} {b : Nat} {px r : Bool} {blk : Block}
    (h : ir.removeBlock b px = .ok (ir', r)) (hb : ir.block? b = some blk) :
    ∀ name entries, (name, entries) ∈ ir'.aux.omaps → ∀ el k v, (el, k, v) ∈ entries → el ≠ Elem.block b := by
  intro name entries hm el k v he
  rw [removeBlock_omaps h hb] at hm
  obtain ⟨⟨n0, es0⟩, _, heq⟩ := List.mem_map.mp hm
  simp only [Prod.mk.injEq] at heq
  obtain ⟨_, rfl⟩ := heq
  have := (List.mem_filter.mp he).2
  simpa using this

/-- `join_blocks`: the absorbed block has no alignment entry and no entry in the whole-block
tables of its kind -/
theorem absorbed_block_leaves_no_table_key {ir ir' : IR} {id1 id2 : Nat} {b1 b2 : Block}
    (h : ir.joinBlocks id1 id2 = .ok ir') (h1 : ir.block? id1 = some b1) (h2 : ir.block? id2 = some b2)
    (hne : id2 ≠ id1) :
    alookup id2 ir'.aux.alignment = none ∧
    (if b2.isCode then alookup id2 ir'.aux.profile = none ∧ alookup id2 ir'.aux.sccs = none
     else alookup id2 ir'.aux.types = none ∧ alookup id2 ir'.aux.encodings = none) := by
  obtain ⟨_, sect, _, rfl⟩ := joinBlocks_ok h h1 h2
  rw [setBlock_aux, orderRemove_aux, setBlock_aux]
  refine ⟨joinAlignment_none _ _ _ (by rw [block?_id h1]; exact hne), ?_⟩
  unfold IR.joinTables
  cases b2.isCode
  · exact ⟨alookup_adel_same _ _, alookup_adel_same _ _⟩
  · exact ⟨alookup_adel_same _ _, alookup_adel_same _ _⟩

/-- **failure path, CFG**: however the body of the return-cache context ends — raising
included — `ir.cfg` is the caller's CFG object again and holds exactly the live edges -/
theorem failure_leaves_callers_cfg (hsh : Edge → Nat) (e0 : List Edge) (ops : List BodyOp) :
    let r := runReturnCtx hsh e0 ops true
    r.irCfgIsOld = true ∧ r.oldEdges = (ops.foldl CtxState.body (CtxState.init e0)).cache.edges :=
  let h := C20.return_cache_context hsh e0 ops true
  ⟨h.1, h.2.1⟩

/-- **failure path, symbols**: leaving the reference-cache context materialises every pending
retarget: nothing stays indirect, every symbol carries the referent the history assigned -/
theorem failure_strands_no_symbol {c c' : RC} {sp : RSpec} (hi : Inv c) (ha : Abs c sp) (h : c.apply = some c') :
    (∀ s, c'.referents s = none) ∧ (∀ s, c'.direct s = sp.ref s ∧ c'.atEnd s = sp.atEnd s) :=
  C20.refcache_apply_direct hi ha h

/-- **symbol referents, over a whole `apply()`**: when the loop over all blocks is through, every
symbol that refers to a block refers to a block that is attached to a byte interval of a section of
the module (premises: the objects of every patch are new when it is inserted; the invariant holds
of the input - both are evaluated on the recorded states of every run) -/
theorem symbol_referents_are_part_of_the_module (rs : List BlockMods) (ir ir' : IR)
    (h : ir.applyAll rs = .ok ir') (hI : IdsBelow ir) (hok : ∀ r ∈ rs, ReqOk ir r) (hnd : (rs.map (ivOf ir)).Nodup)
    (hnew : NewPatchesAll ir rs) (hinv : SInv ir) :
    ∀ y ∈ ir'.syms, ∀ b, y.ref = .block b → ∃ blk s, ir'.block? b = some blk ∧ blk.bi ≠ none ∧ ir'.sectionOf blk = some s := by
  obtain ⟨s1, _⟩ := applyAll_sinv rs ir ir' h hI hok hnd hnew hinv.1 hinv.2
  intro y hy b hb
  rcases s1 y hy b hb with ⟨s, blk, hblk, hs⟩ | hp
  · exact ⟨blk, s, hblk, sectionOf_some_bi hs, hs⟩
  · cases hp

/-- **symbolic-expression symbols, over a whole `apply()`**: when the loop over all blocks is
through, every symbolic expression of every byte interval names symbols of the module - no step of
a rewrite removes a symbol, `edit_byte_interval` only drops or moves expressions, a patch adds
expressions that name module symbols or its own (premise `PatchExprsAll`, evaluated on the recorded
states of every run) -/
theorem expression_symbols_are_part_of_the_module (rs : List BlockMods) (ir ir' : IR)
    (h : ir.applyAll rs = .ok ir') (hnew : PatchExprsAll ir rs) (he : ExprOk [] ir) :
    ∀ iv ∈ ir'.intervals, ∀ ke ∈ iv.symExprs,
      ke.2.sym1 ∈ ir'.syms.map (·.id) ∧ (ke.2.kind = 1 → ke.2.sym2 ∈ ir'.syms.map (·.id)) := by
  have e1 := applyAll_exprok rs ir ir' h hnew he
  intro iv hiv ke hke
  have := e1 iv hiv ke hke
  simpa [exprIn, symIds] using this

end GtirbVerif.Props.C05
