import GtirbVerif.Lemmas.IRFunc
import GtirbVerif.Lemmas.IRMirror
import GtirbVerif.Lemmas.IREntries
import GtirbVerif.Lemmas.IRFuncInsert
import GtirbVerif.Spec.FuncCheck

/-!
# C06 — function tables keep describing the same code

* **specification** — `Listing.checkFunctions` (Spec/FuncCheck.lean): code found inside the piece
  of an original block of function F is in F (inserted code included), code inside function-less
  code or data is in no function; no block in two functions, entries ⊆ blocks, the three tables
  have the same functions, a deleted entry is inherited by the next block only inside the same
  function (not with `retarget_to_proxy`).  Evaluated by the driver on the real before/after
  modules (oracle).
* **model** — `IR.addFunctionBlock`, `IR.removeFunctionBlock`, `IR.inheritFunction`,
  `IR.removeFunctions`, `IR.addPatchFunctions`, the function rules of `are_joinable`; compared
  with the real code after every recorded operation (correspondence), `fbb` = the side cache
  `functions_by_block` included.
* **theorems** (this file, every IR): the cache mirrors `functionBlocks` — `Mirror` is an
  invariant of the only two writers; a block split off inherits its parent's function; a
  removed block is in no function afterwards; a function that lost its last block (and entry)
  disappears from all three tables; and the mirror relation (together with "the cache speaks of
  blocks of the table only") is an invariant of `insert`, of `delete`, of the whole loop over the
  requests of a block and of `apply()`'s loop over all blocks - for every request list; so after
  the whole loop no block is listed by two functions, and every entry of a function is still one
  of its blocks (`EntSub`, Lemmas/IREntries.lean); and code inserted into a block of function F
  belongs to F when `insert` returns (Lemmas/IRFuncInsert.lean).
-/
namespace GtirbVerif.Props.C06
open GtirbVerif GtirbVerif.IR

/-- `add_function_block_aux` keeps `functions_by_block` and `functionBlocks` in step -/
theorem add_keeps_cache_in_step (ir : IR) (b f : Nat) (h : Mirror ir) (hnew : alookup b ir.fbb = none) :
    Mirror (ir.addFunctionBlock b f) :=
  addFunctionBlock_mirror ir b f h hnew

/-- `remove_function_block_aux` keeps them in step -/
theorem remove_keeps_cache_in_step (ir : IR) (b : Nat) (h : Mirror ir) : Mirror (ir.removeFunctionBlock b) :=
  removeFunctionBlock_mirror ir b h

/-- the block split off by `split_block` belongs to the function of the block it came from
(so code inserted into a block of F, which is joined to or placed next to such halves, is
attributed to F) -/
theorem split_half_inherits_function (ir : IR) (b nb : Nat) (h : Mirror ir) (hnew : alookup nb ir.fbb = none) :
    Mirror (ir.inheritFunction b nb) ∧ alookup nb (ir.inheritFunction b nb).fbb = alookup b ir.fbb := by
  unfold IR.inheritFunction
  cases alookup b ir.fbb with
  | some f => exact ⟨addFunctionBlock_mirror ir nb f h hnew, alookup_aset_same nb f ir.fbb⟩
  | none => exact ⟨h, hnew⟩

/-- a block removed from the function tables is in no function, neither by the cache nor by
the table -/
theorem removed_block_is_in_no_function (ir : IR) (b : Nat) (h : Mirror ir) :
    alookup b (ir.removeFunctionBlock b).fbb = none ∧ ∀ f, ¬ (ir.removeFunctionBlock b).inFunc b f := by
  have h1 : alookup b (ir.removeFunctionBlock b).fbb = none := by rw [removeFunctionBlock_lookup, if_pos rfl]
  refine ⟨h1, fun f hf => ?_⟩
  have := (removeFunctionBlock_mirror ir b h b f).mpr hf
  rw [h1] at this; cases this

/-- a function that lost all its blocks disappears from functionBlocks, functionEntries and
functionNames -/
theorem emptied_function_disappears (ir : IR) (b f : Nat) (hb : alookup b ir.fbb = some f)
    (hlast : ∀ c, c ∈ (alookup f ir.aux.funcBlocks).getD [] → c = b)
    (hent : ∀ c, c ∈ (alookup f ir.aux.funcEntries).getD [] → c = b) :
    alookup f (ir.removeFunctionBlock b).aux.funcBlocks = none ∧
    alookup f (ir.removeFunctionBlock b).aux.funcEntries = none ∧
    alookup f (ir.removeFunctionBlock b).aux.funcNames = none := by
  unfold IR.removeFunctionBlock
  rw [hb]
  dsimp only
  -- neither table keeps a block of `f`, so the entry of `f` is deleted from all three
  rw [(dropMember_flag_iff b f _).mpr hlast, (dropMember_flag_iff b f _).mpr hent, if_neg (by decide)]
  exact ⟨alookup_adel_same _ _, alookup_adel_same _ _, alookup_adel_same _ _⟩

/-- `are_joinable` never joins across functions or into an entry block (code blocks with bytes) -/
theorem join_respects_function_boundaries (ir : IR) (b1 b2 : Block) (h : ir.codeJoinable b1 b2 = none) :
    ir.sameFunction b1.id b2.id = true ∧ ir.isEntryBlock b2.id = false := by
  unfold IR.codeJoinable at h
  -- a guard that holds makes the result `some _`: all four fail
  obtain ⟨_, h⟩ := passed_guard h nofun
  obtain ⟨_, h⟩ := passed_guard h nofun
  obtain ⟨h3, h⟩ := passed_guard h nofun
  obtain ⟨h4, _⟩ := passed_guard h nofun
  exact ⟨by simpa using h3, by simpa using h4⟩

/-- **`functions_by_block` mirrors `functionBlocks` after every `insert`** - through the splits, the
removal of the replaced range, the patch's code joining the block's function, the clean-up -/
theorem insert_keeps_cache_in_step {i : Nat} {ir ir' : IR} {b off repl last : Nat} {p : Patch}
    (h : ir.insert b off repl p = .ok (ir', last)) (hin : In i ir b) (hm : MInv ir) (hI : IdsBelow ir)
    (hnew : ∀ c ∈ p.text.blocks.map (·.id), ir.block? c = none) (hlt : ∀ c ∈ p.text.blocks.map (·.id), c < ir.next)
    (hnd : (p.text.blocks.map (·.id)).Nodup) : Mirror ir' :=
  (insert_minv h hm hI hnew hlt hnd).1

/-- ... and after every `delete` -/
theorem delete_keeps_cache_in_step {ir ir' : IR} {b off len : Nat} {px : Bool} {r : Option Nat}
    (h : ir.delete b off len px = .ok (ir', r)) (hm : MInv ir) (hI : IdsBelow ir) : Mirror ir' :=
  (delete_minv h hm hI).1

/-- **... and after `apply()`'s whole loop**, for every list of request lists (premises as in
`Props.C01.all_blocks_are_listing_edits`) -/
theorem apply_keeps_cache_in_step (rs : List BlockMods) (ir ir' : IR)
    (h : ir.applyAll rs = .ok ir') (hI : IdsBelow ir) (hok : ∀ r ∈ rs, ReqOk ir r)
    (hnd : (rs.map (ivOf ir)).Nodup) (hnew : NewBlocksAll ir rs) (hm : MInv ir) : Mirror ir' :=
  (applyAll_minv rs ir ir' h hI hok hnd hnew hm).1

/-- **no block is in two functions**: when the cache mirrors the table, a block listed under two
functions would have two cache entries - there is one -/
theorem mirror_excludes_two_functions (ir : IR) (h : Mirror ir) (b f g : Nat)
    (hf : ir.inFunc b f) (hg : ir.inFunc b g) : f = g := by
  have h1 := (h b f).mpr hf
  have h2 := (h b g).mpr hg
  rw [h1] at h2
  injection h2

/-- … so after `apply()`'s whole loop, whatever the requests, no block is listed by two functions -/
theorem no_block_is_in_two_functions_after_apply (rs : List BlockMods) (ir ir' : IR)
    (h : ir.applyAll rs = .ok ir') (hI : IdsBelow ir) (hok : ∀ r ∈ rs, ReqOk ir r)
    (hnd : (rs.map (ivOf ir)).Nodup) (hnew : NewBlocksAll ir rs) (hm : MInv ir) (b f g : Nat)
    (hf : ir'.inFunc b f) (hg : ir'.inFunc b g) : f = g :=
  mirror_excludes_two_functions ir' (apply_keeps_cache_in_step rs ir ir' h hI hok hnd hnew hm) b f g hf hg

/-- **entries are a subset of blocks, after `apply()`'s whole loop**: if every block that
`functionEntries` lists for a function is listed by `functionBlocks` for it before the rewrite, the
same holds afterwards - whatever the requests (Lemmas/IREntries.lean: only
`remove_function_block_aux`, which drops a block from both tables, and the promotion of the next
block of the same function write the entry table) -/
theorem entries_are_blocks_after_apply (rs : List BlockMods) (ir ir' : IR)
    (h : ir.applyAll rs = .ok ir') (hI : IdsBelow ir) (hok : ∀ r ∈ rs, ReqOk ir r)
    (hnd : (rs.map (ivOf ir)).Nodup) (hnew : NewBlocksAll ir rs) (hm : MInv ir) (he : EntSub ir) : EntSub ir' :=
  (applyAll_entSub rs ir ir' h hI hok hnd hnew hm he).2

/-- **code inserted into a block of function F belongs to F**: when `insert` returns, every code
block of the patch that is still part of the module is, by the cache (which mirrors
`functionBlocks`, see above), in the function of the block it was inserted into; a patch block that
is not is one the clean-up took out of the module (joined into its neighbour, whose function it
shares, or removed as empty) -/
theorem inserted_code_belongs_to_the_function {i : Nat} {ir ir' : IR} {b off repl last f : Nat} {p : Patch} {blk : Block}
    (h : ir.insert b off repl p = .ok (ir', last)) (hb : ir.block? b = some blk) (hbi : blk.bi = some i)
    (hcode : blk.isCode = true) (hf : alookup b ir.fbb = some f) (hI : IdsBelow ir)
    (hnew : ∀ c ∈ p.text.blocks.map (·.id), ir.block? c = none) (hlt : ∀ c ∈ p.text.blocks.map (·.id), c < ir.next)
    (hnd : (p.text.blocks.map (·.id)).Nodup) :
    ∀ tbk ∈ p.text.blocks, tbk.isCode = true →
      alookup tbk.id ir'.fbb = some f ∨ ∃ x, ir'.block? tbk.id = some x ∧ x.bi = none :=
  fun _ htb hc => insert_patch_fbb h hb hcode hf hI htb hc

/-- **deleting an entry block promotes the next block only if it is in the same function**: after
the function-table step of `remove_block` every entry was an entry before - except the next block,
and that one only when the removed block was an entry of the function, the next block is code and
the cache puts both into that same function -/
theorem entry_promotion_only_within_the_function (x : IR) (blk : Block) (n : Option Nat) (nc : Bool) (c g : Nat)
    (h : (x.removeFunctions blk n nc).isEntry c g) :
    x.isEntry c g ∨ (c = n.getD 0 ∧ nc = true ∧ x.isEntry blk.id g ∧ alookup blk.id x.fbb = some g ∧
      x.sameFunction blk.id (n.getD 0) = true) :=
  removeFunctions_isEntry x blk n nc c g h

/-- … and over everything `remove_block` does to the tables: with `retarget_to_proxy` (`t = true`)
no block inherits the entry; without it only the next block can, under the conditions above -/
theorem removal_promotes_only_the_next_block_of_the_function (x : IR) (blk : Block) (t c : Bool) (px p n : Option Nat)
    (k g : Nat) (h : (x.removeStages blk t c px p n).isEntry k g) :
    x.isEntry k g ∨ (t = false ∧ k = n.getD 0 ∧ x.isCodeBlockId n = true ∧ x.isEntry blk.id g ∧
      alookup blk.id x.fbb = some g ∧ x.sameFunction blk.id (n.getD 0) = true) :=
  removeStages_isEntry x blk t c px p n k g h

/-! ### non-vacuity -/
private def demo : IR := { fbb := [(1, 7), (2, 7)], aux := { funcBlocks := [(7, [1, 2])], funcEntries := [(7, [1])], funcNames := [(7, 99)] } }
example : Mirror demo :=
  -- the two tables `Mirror` reads are those of the empty IR after two `add_function_block_aux`
  Mirror.of_same (a := (({} : IR).addFunctionBlock 1 7).addFunctionBlock 2 7) rfl rfl
    (addFunctionBlock_mirror _ 2 7 (addFunctionBlock_mirror _ 1 7 (fun _ _ => ⟨nofun, nofun⟩) rfl) rfl)
example : ((demo.removeFunctionBlock 1).removeFunctionBlock 2).aux.funcNames = [] := by decide

end GtirbVerif.Props.C06
