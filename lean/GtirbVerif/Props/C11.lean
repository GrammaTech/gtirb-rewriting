import GtirbVerif.Lemmas.IRCfg
import GtirbVerif.Spec.Listing
import GtirbVerif.Lemmas.SortOn

/-!
# C11 — rewriting is deterministic

* **oracle** — the real code rewrites the same cases in several fresh interpreter processes
  (different PYTHONHASHSEED, allocation pattern and hence set iteration order of gtirb nodes,
  fresh UUIDs): the canonical dumps must be identical; so must the result when requests for
  different locations are registered in another order; byte intervals with blocks tying on
  their offset are split in every process.
* **theorems** (this file): the places where the code iterates over a *set* do not depend on
  the iteration order — the result of a bulk `update_edge` and of a bulk discard over a snapshot
  has the same members for every ordering of the snapshot; and the processing order of the
  requests of a block is determined by (offset, insertion-before-replacement, registration
  index) alone: two registration orders that give every request the same key produce the same
  processing order (sorting by distinct keys is permutation invariant).
-/
namespace GtirbVerif.Props.C11
open GtirbVerif GtirbVerif.IR GtirbVerif.Listing
open GtirbVerif.Adt (CfgNode Label Edge)

/-- **bulk `update_edge` does not depend on the order of the snapshot** -/
theorem bulk_update_is_order_independent (f : Edge → Edge) (l l' : List Edge) (hp : l.Perm l')
    (hf : ∀ e ∈ l, f e ∉ l) (cfg : List Edge) (e' : Edge) :
    e' ∈ moveEdges f cfg l ↔ e' ∈ moveEdges f cfg l' :=
  -- both sides are described by membership in the snapshot alone
  bulkEdges_perm (fun e => some (f e)) hp (fun e he e1 h => by cases h; exact hf e he) cfg e'

/-- a bulk discard over a snapshot: membership afterwards -/
theorem mem_discardAll (l : List Edge) (cfg : List Edge) (e' : Edge) :
    e' ∈ l.foldl cfgDiscard cfg ↔ e' ∈ cfg ∧ e' ∉ l := by
  rw [discardAll_eq_bulk, mem_bulkEdges _ _ (fun _ _ _ h => by cases h)]
  simp only [reduceCtorEq, and_false, exists_false, or_false]

/-- **… and does not depend on the order of the snapshot either** -/
theorem bulk_discard_is_order_independent (l l' : List Edge) (hp : l.Perm l') (cfg : List Edge) (e' : Edge) :
    e' ∈ l.foldl cfgDiscard cfg ↔ e' ∈ l'.foldl cfgDiscard cfg := by
  exact bulkEdges_perm (fun _ => none) hp (fun _ _ _ h => by cases h) cfg e'

/-- **Registration order matters only through the keys' order**: if two keyings order the
requests the same way and never tie, they are processed in the same order.  (Re-registering
the requests of different offsets in another order changes only the registration indices, not
how two requests at one offset compare.) -/
theorem processing_order_depends_on_key_order_only {α} (k k' : α → Nat × Nat) (l : List α)
    (hiso : ∀ a ∈ l, ∀ b ∈ l, leBy k a b ↔ leBy k' a b)
    (hanti : ∀ a ∈ l, ∀ b ∈ l, leBy k a b → leBy k b a → a = b) :
    sortOn k l = sortOn k' l :=
  sortOn_congr k k' (.refl l) hiso hanti

/-- every registered request of the block is processed exactly once -/
theorem every_request_is_processed_once (edits : List LEdit) (b : Nat) :
    (editsOf edits b).Perm (edits.filter (·.block == b)) :=
  sortOn_perm _ _

end GtirbVerif.Props.C11
