import GtirbVerif.Lemmas.IRAnn
import GtirbVerif.Lemmas.IRBytes

/-!
# C04 — symbolic expressions and offset-keyed aux data travel with bytes

* **specification** — `Listing.checkAnnotations` (Spec/ListingCheck.lean): the multiset of
  (table, section position, value) after the rewrite is the image of the original one under the
  listing's byte map `mapByte` (entries on deleted bytes vanish) plus the patch's own entries at
  patch position + offset; evaluated by the driver on the real before/after modules (oracle).
* **model** — `shiftKeys` / `IR.editInterval`, `splitOmaps` / `splitCfi`, `joinOmaps` / `joinCfi`,
  `IR.removeAuxEntries` follow the dict comprehensions of `_modify/*.py`; compared with the real
  code after every recorded `insert` / `delete` (correspondence).
* **theorems** (this file, every IR, every table): the `k < offset` / `k ≥ offset + length`
  boundaries of `edit_byte_interval` keep exactly the entries outside the replaced range and
  shift those behind it by the size change, nothing is left inside the range or beyond the new
  end; re-keying by `split_block` and `join_blocks` moves no entry (same byte interval, same
  offset); `remove_block` drops exactly the entries keyed by the removed block.
-/
namespace GtirbVerif.Props.C04
open GtirbVerif GtirbVerif.IR

/-- **`edit_byte_interval` on an offset table / the symbolic expressions**: an entry survives
iff it lies before the edit (same key) or at/after the end of the replaced range (key moved
by `len(content) - length`). -/
theorem edit_keeps_outside_shifts_behind {β} (off len n : Nat) (m : List (Nat × β)) (k' : Nat) (v : β) :
    (k', v) ∈ shiftKeys off len n m ↔
      ∃ k, (k, v) ∈ m ∧ ((k < off ∧ k' = k) ∨ (off + len ≤ k ∧ k' = k + n - len)) :=
  mem_shiftKeys off len n m k' v

/-- nothing is left pointing into the replaced bytes' place or outside the byte interval -/
theorem edit_leaves_nothing_dangling {β} (off len n size : Nat) (m : List (Nat × β)) (hlen : off + len ≤ size)
    (hm : ∀ k v, (k, v) ∈ m → k < size) (k' : Nat) (v : β) (h : (k', v) ∈ shiftKeys off len n m) :
    k' < size + n - len ∧ (k' < off ∨ off + n ≤ k') := by
  obtain ⟨k, hk, h | h⟩ := (mem_shiftKeys off len n m k' v).mp h
  · have := hm k v hk; omega
  · have := hm k v hk; omega

/-- the symbolic expressions of an edited interval are exactly `shiftKeys` of the old ones -/
theorem edit_shifts_symbolic_expressions (ir : IR) (i off len : Nat) (content st : List Nat) (iv : Interval)
    (h : ir.interval? i = some iv) :
    ((ir.editInterval i off len content st).interval? i).map (·.symExprs) =
      some (shiftKeys off len content.length iv.symExprs) := by
  rw [editInterval_interval? ir i off len content st iv h, if_pos rfl]; rfl

/-- `split_block` re-keys the entries at displacement ≥ offset to the new block without moving
them; the tables afterwards are exactly the re-keyed ones (CFI: with the `.cfi_endproc` rule). -/
theorem split_moves_no_entry {ir ir' : IR} {b off nb : Nat} {added : Bool} {blk : Block}
    (h : ir.splitBlock b off = .ok (ir', nb, added)) (hb : ir.block? b = some blk)
    (hfresh : ir.block? ir.next = none) :
    (ir'.aux.omaps = splitOmaps ir.aux.omaps b nb off ∧ ir'.aux.cfi = splitCfi ir.aux.cfi b nb off) ∧
    ∀ el k pos, ir.entryPos el k = some pos →
      ir'.entryPos (if el == Elem.block b && decide (k ≥ off) then (Elem.block nb, k - off) else (el, k)).1
        (if el == Elem.block b && decide (k ≥ off) then (Elem.block nb, k - off) else (el, k)).2 = some pos := by
  refine ⟨splitBlock_omaps h, fun el k pos hp => ?_⟩
  cases el with
  | interval i => exact hp
  | block c =>
    -- the entry of a block is the place `k` bytes into it; the new block's id named no block before
    have hp : ir.posAt c k = some pos := hp
    have hcn : c ≠ nb := by
      rintro rfl
      unfold IR.posAt at hp
      rw [(splitBlock_syms_blocks h hb).1, hfresh] at hp
      cases hp
    by_cases hc : c = b ∧ off ≤ k
    · rw [if_pos (by simpa using hc)]
      show ir'.posAt nb (k - off) = some pos
      rw [splitBlock_posAt h hb hfresh, if_pos rfl, Nat.add_sub_cancel' hc.2, ← hc.1]
      exact hp
    · rw [if_neg (by simpa using hc)]
      show ir'.posAt c k = some pos
      rw [splitBlock_posAt h hb hfresh, if_neg hcn]
      exact hp

/-- `join_blocks` re-keys block2's entries to block1 at `block1.size + displacement`, the place
they already had. -/
theorem join_moves_no_entry {ir ir' : IR} {id1 id2 : Nat} {b1 b2 : Block}
    (h : ir.joinBlocks id1 id2 = .ok ir') (h1 : ir.block? id1 = some b1) (h2 : ir.block? id2 = some b2)
    (hne : id1 ≠ id2) :
    (ir'.aux.omaps = joinOmaps ir.aux.omaps b1.id b1.size id2 ∧ ir'.aux.cfi = joinCfi ir.aux.cfi b1.id b1.size id2) ∧
    ∀ el k pos, ir.entryPos el k = some pos →
      ir'.entryPos (if el == Elem.block id2 then (Elem.block id1, b1.size + k) else (el, k)).1
        (if el == Elem.block id2 then (Elem.block id1, b1.size + k) else (el, k)).2 = some pos := by
  refine ⟨joinBlocks_omaps h h1 h2, fun el k pos hp => ?_⟩
  cases el with
  | interval i => exact hp
  | block c =>
    have hp : ir.posAt c k = some pos := hp
    by_cases hc : c = id2
    · rw [if_pos (by simpa using hc)]
      show ir'.posAt id1 (b1.size + k) = some pos
      rw [joinBlocks_posAt h h1 h2, if_neg hne, ← posAt_joinable (joinBlocks_syms_blocks h h1 h2).1 h1 h2, ← hc]
      exact hp
    · rw [if_neg (by simpa using hc)]
      show ir'.posAt c k = some pos
      rw [joinBlocks_posAt h h1 h2, if_neg hc]
      exact hp

/-- annotations on removed bytes disappear: `remove_block` drops exactly the entries keyed by
the removed block from every offset table -/
theorem remove_drops_the_blocks_entries {ir ir' : IR} {b : Nat} {px r : Bool} {blk : Block}
    (h : ir.removeBlock b px = .ok (ir', r)) (hb : ir.block? b = some blk) :
    ir'.aux.omaps = ir.aux.omaps.map (fun (name, entries) =>
      (name, entries.filter (fun (el, _, _) => el != Elem.block b))) :=
  removeBlock_omaps h hb

/-- **a whole `delete` keeps every symbolic expression on its byte**: whatever `delete` does to the
blocks (two splits, a removal, joins), in the byte interval of the block the expressions in front of
the deleted range keep their offset, those behind it move down by the deleted length and those on
the deleted bytes are gone (`edit_keeps_outside_shifts_behind` says what `shiftKeys` contains);
the expressions of every other interval are untouched -/
theorem delete_keeps_expressions_on_their_bytes {ir ir' : IR} {b off len : Nat} {px : Bool} {r : Option Nat}
    {blk : Block} {i : Nat} {iv : Interval}
    (h : ir.delete b off len px = .ok (ir', r))
    (hb : ir.block? b = some blk) (hbi : blk.bi = some i) (hiv : ir.interval? i = some iv) :
    ir'.exprsOf i = some (shiftKeys (blk.off + off) len 0 iv.symExprs) ∧
    ∀ j, j ≠ i → ir'.exprsOf j = ir.exprsOf j := by
  unfold IR.exprsOf
  refine ⟨by rw [delete_interval h hb hbi hiv, if_pos rfl]; rfl, fun j hj => ?_⟩
  rw [delete_interval h hb hbi hiv, if_neg hj]

/-- **a whole `insert`**: the old expressions of the block's byte interval stay on their bytes
(`shiftKeys` around the replaced range), every expression of the patch appears at the patch
position plus its offset inside the patch (`aset (block.offset + offset + k) e`, the patch's
expression object as it is: symbol, addend, attributes), and no other interval the module had
changes -/
theorem insert_places_patch_expressions {ir ir' : IR} {b off repl last : Nat} {p : Patch} {blk : Block} {i : Nat}
    {iv : Interval}
    (h : ir.insert b off repl p = .ok (ir', last))
    (hb : ir.block? b = some blk) (hbi : blk.bi = some i) (hiv : ir.interval? i = some iv) :
    ir'.exprsOf i = some (p.text.symExprs.foldl (fun m (x : Nat × SymExpr) => aset (blk.off + off + x.1) x.2 m)
      (shiftKeys (blk.off + off) repl p.text.data.length iv.symExprs)) ∧
    ∀ j, j ≠ i → ir.exprsOf j ≠ none → ir'.exprsOf j = ir.exprsOf j := by
  obtain ⟨h1, h2⟩ := insert_interval h hb hbi hiv
  unfold IR.exprsOf
  refine ⟨by rw [h1]; rfl, fun j hj hne => ?_⟩
  rw [h2 j hj (fun hn => hne (by rw [hn]; rfl))]

/-! ### non-vacuity -/
example : shiftKeys 2 3 1 [(0, "a"), (2, "b"), (4, "c"), (5, "d"), (9, "e")] = [(0, "a"), (3, "d"), (7, "e")] := by decide

end GtirbVerif.Props.C04
