import GtirbVerif.Lemmas.AsmFinalize
import GtirbVerif.Lemmas.AsmTrace
import GtirbVerif.Spec.AsmCheck

/-!
# C12 — assembler output: bytes, blocks and CFG match the assembly text

* **model** — `Asm.assemble` (Model/Asm/Streamer.lean) follows `_SymbolCreator`, `_Streamer` and
  `Assembler.finalize` event by event.  Its input is the event stream LLVM's parser delivers
  (recorded from the real run); its output is compared with the real `Assembler.Result` on every
  run (correspondence).  LLVM's parser and encoder are not modelled: the bytes are judged by
  capstone against the tokens, and the result's shape by `AsmCheck.check` (Spec/AsmCheck.lean),
  which is stated over the text and evaluated on the real result.
* **theorems** (for every target, every chunk list, every event stream):
  - `assemble_tiled`: in every section of a successful result the blocks sit end to end from
    offset 0 to the end of the data, and no block but the last is empty;
  - `transfer_ends_block`: an instruction that is a return, call or branch closes its block — the
    step ends with `_split_block`, so the next byte goes to a fresh, empty block that starts where
    the data ends;
  - `ret_edges`, `jump_edges`: the edges added are exactly the ones the kind
    demands — a Return edge to a proxy allocated by this step and no fallthrough; one Branch/Call
    edge (conditional iff jcc, direct iff not indirect, to a proxy allocated by this step when
    indirect), followed by a Fallthrough edge to the fresh block exactly for calls and
    conditional jumps (the last conjunct of `jump_edges`);
  - `label_block`: a label's block starts at the current end of the data, with a fallthrough edge
    from the current block;
  - `streaming_fresh`, `ret_proxy_fresh`, `indirect_proxy_fresh`: in every state the streamer
    reaches, every proxy is numbered below the allocation counter and every edge to a proxy and
    every undefined symbol leads to an allocated proxy; hence the proxy a return or an indirect
    transfer gets is, at that moment, the target of no edge and the referent of no symbol - it is
    fresh.
-/
namespace GtirbVerif.Props.C12
open GtirbVerif.Asm

/-- **tiling**: every section of a result is tiled and has an empty block at most at the end -/
theorem assemble_tiled {t : Target} {chunks : List (List Event)} {st : AState} (h : assemble t chunks = .ok st) :
    ∀ s ∈ st.sects, tiles 0 s.blocks = some s.dataLen ∧ ∀ b ∈ s.blocks.dropLast, b.size ≠ 0 := by
  unfold assemble at h
  split at h
  · cases h
  · rename_i st1 h1
    have hi : Inv st1 := Inv.assembleChunks Inv.empty h1
    intro s hs
    have hf := finalize_final hi h s hs
    exact ⟨hf.1, nonlast_nonempty hf.1 hf.2⟩

/-- while streaming, too: the blocks of every section tile its data after every event -/
theorem run_tiled {t : Target} {evs : List Event} {st st' : AState} (hi : Inv st) (h : run t st evs = .ok st') :
    ∀ s ∈ st'.sects, s.blocks ≠ [] ∧ tiles 0 s.blocks = some s.dataLen :=
  fun s hs => Inv.run hi h s hs

/-- the fresh block `_split_block` opens -/
def freshBlock (st : AState) (s : ASect) : ABlock := { id := 2 * st.next, off := s.curBlock.off + s.curBlock.size, size := 0 }

theorem split_blocks (st : AState) (s : ASect) (f : Bool) : (splitBlock st s f).2.blocks = s.blocks ++ [freshBlock st s] := rfl

theorem split_cfg (st : AState) (s : ASect) (f : Bool) :
    (splitBlock st s f).1.cfg = if f then st.cfg ++ [{ src := s.curBlock.id, dst := .block (2 * st.next), type := .fall, cond := false, direct := true }] else st.cfg := rfl

/-- **a control transfer ends its block**: the step's last action is `_split_block` on the section
that just received the instruction, so the block holding the instruction is closed and the next
byte lands in a fresh empty block at the end of the data -/
theorem transfer_ends_block {t : Target} {st st' : AState} {s : ASect} {size : Nat} {kind : IKind} {ind : Bool}
    {fx : List Fixup} (hk : kind ≠ .other) (h : stepInsn t st s size kind ind fx = .ok st') :
    ∃ st1, st' = (splitBlock st1 (insnSect s size fx) (kind == .call || kind == .jcc)).1.setSect
                  (splitBlock st1 (insnSect s size fx) (kind == .call || kind == .jcc)).2 := by
  obtain ⟨st0, _, ⟨rfl, _⟩ | ⟨rfl, _, _, rfl⟩ | ⟨_, _, _, _, _, _, _, _, rfl⟩⟩ := stepInsn_ok rfl h
  · exact absurd rfl hk
  · exact ⟨_, rfl⟩
  · exact ⟨_, rfl⟩

/-- **return**: exactly one edge is added, a Return edge from the instruction's block to the proxy
this step allocates; no fallthrough -/
theorem ret_edges {t : Target} {st st' : AState} {s : ASect} {size : Nat} {ind : Bool} {fx : List Fixup}
    (h : stepInsn t st s size .ret ind fx = .ok st') :
    ∃ st0, resolveFixups t st fx = .ok st0 ∧
      st'.cfg = st0.cfg ++ [retEdge (insnSect s size fx).curBlock.id st0.next] ∧
      st'.proxies = st0.proxies ++ [st0.next] := by
  obtain ⟨st0, h0, ⟨hk, _⟩ | ⟨_, _, rfl, rfl⟩ | ⟨_, hk, _⟩⟩ := stepInsn_ok rfl h
  · cases hk
  · exact ⟨st0, h0, rfl, rfl⟩
  · exact absurd rfl hk

/-- **jump, conditional jump, call**: one Branch/Call edge to the resolved target, conditional
exactly for jcc, and then a Fallthrough edge to the fresh block exactly for call and jcc -/
theorem jump_edges {t : Target} {st st' : AState} {s : ASect} {size : Nat} {kind : IKind} {ind : Bool} {fx : List Fixup}
    (hk : kind = .jmp ∨ kind = .jcc ∨ kind = .call) (h : stepInsn t st s size kind ind fx = .ok st') :
    ∃ st0 st2 tgt direct, resolveFixups t st fx = .ok st0 ∧
      insnTarget t (markCode st0 (insnSect s size fx).curBlock.id) ind fx = .ok (st2, tgt, direct) ∧
      st'.cfg = st2.cfg ++ [xferEdge (insnSect s size fx).curBlock.id tgt kind direct] ++
        (if kind == .call || kind == .jcc then
          [{ src := (insnSect s size fx).curBlock.id, dst := .block (2 * st2.next), type := .fall, cond := false, direct := true }] else []) := by
  obtain ⟨st0, h0, ⟨rfl, _⟩ | ⟨rfl, _⟩ | ⟨_, _, st2, tgt, direct, ht, _, rfl, rfl⟩⟩ := stepInsn_ok rfl h
  · simp at hk
  · simp at hk
  · refine ⟨st0, st2, tgt, direct, h0, ht, ?_⟩
    simp only [AState.setSect, splitBlock]
    split <;> simp

/-- an indirect transfer goes to a proxy this step allocates and is flagged indirect; a direct one
is flagged direct and goes where the symbol resolves -/
theorem target_kinds {t : Target} {st st2 : AState} {ind : Bool} {fx : List Fixup} {tgt : Node} {direct : Bool}
    (h : insnTarget t st ind fx = .ok (st2, tgt, direct)) :
    (ind = true → tgt = .proxy st.next ∧ direct = false ∧ st2.proxies = st.proxies ++ [st.next]) ∧
    (ind = false → direct = true ∧ ∃ f, fx = [f] ∧ f.addend = 0 ∧ resolveTarget t st f.sym = .ok (st2, tgt)) := by
  rcases insnTarget_ok h with ⟨hi, rfl, rfl, rfl⟩ | ⟨hi, hd, hf⟩
  · exact ⟨fun _ => ⟨rfl, rfl, rfl⟩, fun hf => by rw [hi] at hf; cases hf⟩
  · exact ⟨fun ht => (by rw [hi] at ht; cases ht), fun _ => ⟨hd, hf⟩⟩

/-- **labels**: the label's block is appended at the current end of the data, with a fallthrough
edge from the current block -/
theorem label_block {st st' : AState} {s : ASect} {name : String} (h : stepLabel st s name = .ok st') :
    ∃ lb, st.locals.find? (·.1 == name) = some (name, lb) ∧
      st'.cfg = st.cfg ++ [{ src := s.curBlock.id, dst := .block lb, type := .fall, cond := false, direct := true }] ∧
      st' = ({ st with cfg := st'.cfg } : AState).setSect
        { s with blocks := s.blocks ++ [{ id := lb, off := s.curBlock.off + s.curBlock.size, size := 0 }] } := by
  unfold stepLabel at h
  split at h
  · cases h
  · rename_i n lb hf
    cases h
    -- the entry `find?` returns bears the name looked up
    have hn := List.find?_some hf
    exact ⟨lb, beq_iff_eq.1 hn ▸ hf, rfl, rfl⟩

theorem precreate_fresh {t : Target} {evs : List Event} {st st' : AState} (h : Fresh st) (hr : precreate t st evs = .ok st') :
    Fresh st' := by
  rw [(precreate_ok.1 hr).2]
  -- `Fresh` does not read `locals`
  exact h

/-- every state the streamer reaches, from the empty one, over any chunk list, keeps the proxy
bookkeeping consistent -/
theorem streaming_fresh {t : Target} {chunks : List (List Event)} {st st' : AState} (h : Fresh st)
    (hr : assembleChunks t st chunks = .ok st') : Fresh st' :=
  assembleChunks_induct (fun _ _ _ h => precreate_fresh h) (fun _ _ _ h hr => (run_evolves hr).fresh h) h hr

/-- **a return goes to a fresh proxy**: the proxy of the Return edge was not allocated before, no
earlier edge leads to it and no undefined symbol refers to it -/
theorem ret_proxy_fresh {t : Target} {st st' : AState} {s : ASect} {size : Nat} {ind : Bool} {fx : List Fixup}
    (hf : Fresh st) (h : stepInsn t st s size .ret ind fx = .ok st') :
    ∃ st0, resolveFixups t st fx = .ok st0 ∧
      st'.cfg = st0.cfg ++ [retEdge (insnSect s size fx).curBlock.id st0.next] ∧
      st0.next ∉ st0.proxies ∧ (∀ e ∈ st0.cfg, e.dst ≠ .proxy st0.next) ∧ (∀ x ∈ st0.undefs, x.2 ≠ st0.next) := by
  obtain ⟨st0, h0, hc, _⟩ := ret_edges h
  have f0 := ((resolveFixups_evolves (fun _ h => h) .refl h0).fresh hf).next_unused
  exact ⟨st0, h0, hc, f0.1, f0.2.1, f0.2.2⟩

/-- **an indirect transfer goes to a fresh proxy and is flagged indirect** -/
theorem indirect_proxy_fresh {t : Target} {st st2 : AState} {fx : List Fixup} {tgt : Node} {direct : Bool}
    (hf : Fresh st) (h : insnTarget t st true fx = .ok (st2, tgt, direct)) :
    tgt = .proxy st.next ∧ direct = false ∧ st.next ∉ st.proxies ∧ (∀ e ∈ st.cfg, e.dst ≠ .proxy st.next) ∧
      (∀ x ∈ st.undefs, x.2 ≠ st.next) := by
  have a := (target_kinds h).1 rfl
  have b := hf.next_unused
  exact ⟨a.1, a.2.1, b.1, b.2.1, b.2.2⟩

/-! ### the statements are not vacuous -/

def sampleTarget : Target := { moduleSyms := [("modfn", true), ("moddata", false)], allowUndef := true, trivUnreach := false }

/-- `nop; foo: call bar; .byte 1; jne foo; ret` followed by a string in `.data` -/
def sampleChunk : List Event :=
  [.section ".text" true, .insn 1 .other false [], .label "foo",
   .insn 5 .call false [{ off := 1, size := 4, sym := "bar", addend := 0 }], .rawBytes 1,
   .insn 2 .jcc false [{ off := 1, size := 1, sym := "foo", addend := 0 }], .insn 1 .ret false [],
   .section ".data" false, .label "x", .strBytes 2 false, .strBytes 1 true]

example : (assemble sampleTarget [sampleChunk]).toOption.map (fun st => st.sects.map (fun s => s.blocks.map (fun b => (b.off, b.size)))) =
    some [[(0, 1), (1, 5), (6, 3), (9, 1)], [(0, 3)]] := by decide

example : (assemble sampleTarget [sampleChunk]).toOption.map (fun st => st.cfg.length) = some 6 := by decide

end GtirbVerif.Props.C12
