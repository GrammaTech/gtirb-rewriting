import GtirbVerif.Lemmas.Inst
import GtirbVerif.Model.Dwarf.Const
import GtirbVerif.Spec.DwarfStd
import GtirbVerif.Gen.DwarfTables

/-!
# C14 — DWARF expression/CFI encodings round-trip and match the standard

The codec lemmas live in `Lemmas/` (Leb, IntCodec, Encodable, Inst); what is said of `make_const_op`
is proved here from one reading of its chain (`makeConst_spec`).  Every theorem mentioning `Gen.*` is
about the tables regenerated from `/repo` on this run.
-/
namespace GtirbVerif.Props.C14
open GtirbVerif GtirbVerif.Dwarf

theorem uleb_roundtrip (n : Nat) (rest : List Nat) :
    ulebDec (ulebEnc n ++ rest) = some (n, (ulebEnc n).length, rest) :=
  ulebDec_ulebEnc n rest

theorem sleb_roundtrip (i : Int) (rest : List Nat) :
    slebDec (slebEnc i ++ rest) = some (i, (slebEnc i).length, rest) :=
  slebDec_slebEnc i rest

/-- LEB128 as the standard prescribes it: 7 value bits per byte, low group
first, high bit = continuation; a value below `128^k` takes at most `k` bytes -/
theorem uleb_length (n k : Nat) : (ulebEnc n).length ≤ k + 1 ↔ n < 128 ^ (k + 1) :=
  ulebEnc_length_le n k

theorem sleb_length (v : Int) (k : Nat) :
    (slebEnc v).length ≤ k + 1 ↔
      (-(64 * ((128 ^ k : Nat) : Int)) ≤ v ∧ v < 64 * ((128 ^ k : Nat) : Int)) :=
  slebEnc_length_le v k

theorem uint_roundtrip (n : Nat) (bo : ByteOrder) (v : Int) (l rest : List Nat)
    (h : intEnc n false bo v = some l) : intDec n false bo (l ++ rest) = (v, n, rest) :=
  intDec_intEnc n false nofun bo v l rest h

theorem sint_roundtrip (n : Nat) (hn : n ≠ 0) (bo : ByteOrder) (v : Int) (l rest : List Nat)
    (h : intEnc n true bo v = some l) : intDec n true bo (l ++ rest) = (v, n, rest) :=
  intDec_intEnc n true (fun _ => hn) bo v l rest h

/-- fixed-width encoding fails exactly outside the representable range:
never a silent truncation -/
theorem int_encode_fails_iff (n : Nat) (s : Bool) (bo : ByteOrder) (v : Int) :
    intEnc n s bo v = none ↔ inIntDomain n s v = false := by
  unfold intEnc; split <;> simp_all

theorem int_encode_width (n : Nat) (s : Bool) (bo : ByteOrder) (v : Int) (l : List Nat)
    (h : intEnc n s bo v = some l) : l.length = n ∧ ∀ b ∈ l, b < 256 :=
  ⟨intEnc_length h, intEnc_lt h⟩

theorem gen_exprTable_ok : TableOK Gen.exprTable = true := by decide +kernel
theorem gen_exprTable_exprFree : ExprFree Gen.exprTable = true := by decide +kernel
theorem gen_cfiTable_ok : TableOK Gen.cfiTable = true := by decide +kernel

/-- every modelled operation class has the opcode and operand forms of DWARF
v4 Figure 24, and the class of that API name carries that opcode -/
theorem matches_standard_expr :
    Gen.exprTable.all (fun c =>
      Std.dwarf4Expr.contains (c.opcode, c.encs) &&
      Std.opClassOpcode.contains (c.name, c.opcode)) = true := by
  simp only [List.contains_snd_first Std.opClassOpcode]
  decide +kernel

theorem matches_standard_cfi :
    Gen.cfiTable.all (fun c =>
      Std.dwarf4Cfi.contains (c.opcode, c.encs) &&
      Std.cfaClassOpcode.contains (c.name, c.opcode)) = true := by
  simp only [List.contains_snd_first Std.cfaClassOpcode]
  decide +kernel

/-- the opcode enumerations of `dwarf2.py` carry the standard's numbers -/
theorem enum_values_standard :
    Gen.exprEnum.all (fun p => Std.opNames.contains p) = true ∧
    Gen.cfiEnum.all (fun p => Std.cfaNames.contains p) = true := by
  simp only [List.contains_snd_first]
  constructor <;> decide +kernel

/-- the registration dictionary built by `__init_subclass__` (byte -> class)
is what the model's `lookup` computes from the class table, for all 256 bytes -/
theorem registration_matches_lookup :
    (List.range 256).all (fun b =>
      (lookup Gen.exprTable b).map (·.name) == (Gen.exprRegistered.lookup b) &&
      (lookup Gen.cfiTable b).map (·.name) == (Gen.cfiRegistered.lookup b)) = true := by
  -- Each dict is its table registered class by class (`ClassDesc.registers` is the loop of
  -- `__init_subclass__`), in this very order: extract.py lists the dict by byte and the classes
  -- by their first byte.  A dict built like that is searched like the table (`lookup_registers`).
  have he : Gen.exprRegistered = Gen.exprTable.flatMap ClassDesc.registers := by rfl
  have hc : Gen.cfiRegistered = Gen.cfiTable.flatMap ClassDesc.registers := by rfl
  simp [he, hc, lookup_registers]

/-- **decode ∘ encode = id for every operation object of every modelled class,
every operand value the encoder accepts, both byte orders, every pointer size;
exactly the encoded bytes are consumed.** -/
theorem op_roundtrip (bo : ByteOrder) (ptr : Nat) (o : OpObj) (ho : o.cls ∈ Gen.exprTable)
    (bs rest : List Nat) (h : encodeOp bo ptr o = .ok bs) :
    decodeOp Gen.exprTable bo ptr (bs ++ rest) = .ok (o, bs.length, rest) :=
  decodeOp_encodeOp gen_exprTable_ok bo ptr o ho bs rest h

theorem expr_roundtrip (bo : ByteOrder) (ptr : Nat) (ops : List OpObj)
    (hin : ∀ o ∈ ops, o.cls ∈ Gen.exprTable) (bs rest : List Nat)
    (h : encodeExpr bo ptr ops = .ok bs) :
    decodeExpr Gen.exprTable bo ptr (bs ++ rest) = .ok (ops, bs.length, rest) :=
  decodeExpr_encodeExpr gen_exprTable_ok bo ptr ops hin bs rest h

/-- same for CFI instructions, including nested expression operands -/
theorem inst_roundtrip (bo : ByteOrder) (ptr : Nat) (i : InstObj) (hi : i.cls ∈ Gen.cfiTable)
    (hin : ArgsIn Gen.exprTable i.args) (bs rest : List Nat)
    (h : encodeInst bo ptr i = .ok bs) :
    decodeInst Gen.exprTable Gen.cfiTable bo ptr (bs ++ rest) = .ok (i, bs.length, rest) :=
  decodeInst_encodeInst gen_exprTable_ok gen_cfiTable_ok bo ptr i hi hin
    bs rest h

/-- **`parse_cfi_instructions` inverts concatenation.** -/
theorem parse_inverts_concat (bo : ByteOrder) (ptr : Nat) (is : List InstObj)
    (hin : ∀ i ∈ is, i.cls ∈ Gen.cfiTable ∧ ArgsIn Gen.exprTable i.args) (e : List Nat)
    (h : encodeInsts bo ptr is = .ok e) :
    parseInsts Gen.exprTable Gen.cfiTable bo ptr e = .ok is :=
  parseInsts_encodeInsts gen_exprTable_ok gen_cfiTable_ok bo ptr is hin e h

/-- every encoded byte is a byte -/
theorem op_bytes_lt (bo : ByteOrder) (ptr : Nat) (o : OpObj) (ho : o.cls ∈ Gen.exprTable)
    (bs : List Nat) (h : encodeOp bo ptr o = .ok bs) : ∀ b ∈ bs.tail, b < 256 := by
  obtain ⟨-, r, hr, rfl⟩ := encodeOp_eq_ok.mp h
  exact encOpFields_lt _ _ r hr

/-- if any operand is outside its encoder's range, `encode` raises ValueError -/
theorem op_encode_rejects (bo : ByteOrder) (ptr : Nat) (o : OpObj)
    (h : validateOpArgs (some ptr) o.cls.encs o.args = .error .valueError) :
    encodeOp bo ptr o = .error .valueError := by
  simp [encodeOp, h, bind, Except.bind]

theorem inst_encode_rejects (bo : ByteOrder) (ptr : Nat) (i : InstObj)
    (h : validateInstArgs (some ptr) i.cls.encs i.args = .error .valueError) :
    encodeInst bo ptr i = .error .valueError := by
  simp [encodeInst, h, bind, Except.bind]

/-- the validation predicate of every integer encoder is exactly its range -/
theorem validate_iff (e : Enc) (ptr : Nat) (v : Int) :
    validateInt e (some ptr) v = true ↔
      match e with
      | .uleb => 0 ≤ v
      | .sleb => True
      | .uint n => 0 ≤ v ∧ v < (2 ^ (8 * n) : Int)
      | .sint n => -(2 ^ (8 * n - 1) : Int) ≤ v ∧ v < (2 ^ (8 * n - 1) : Int)
      | .uintptr => 0 ≤ v ∧ v < (2 ^ (8 * ptr) : Int)
      | .addOp b => 0 ≤ v ∧ v < (b : Int)
      | .expr => True := by
  cases e <;> simp [validateInt, inIntDomain]

/-- the classes `make_const_op` names exist in the regenerated table with the
opcode and operand form the model assumes -/
theorem const_kinds_in_table :
    ConstKind.all.all (fun k =>
      (Gen.exprTable.map (fun c => (c.opcode, c.encs))).contains (k.opcode, [k.enc])) = true := by
  decide +kernel

/-- `n` bytes are no more than any form that can hold `v` takes.  Of a form only its size and the
range it holds matter, so the two signednesses of a width share a line. -/
private def NoLonger (v : Int) (n : Nat) : Prop :=
  (0 ≤ v ∧ v ≤ 31 → n ≤ 1) ∧ (-(2 ^ 7) ≤ v ∧ v < 2 ^ 8 → n ≤ 2) ∧
  (-(2 ^ 15) ≤ v ∧ v < 2 ^ 16 → n ≤ 3) ∧ (-(2 ^ 31) ≤ v ∧ v < 2 ^ 32 → n ≤ 5) ∧ n ≤ 9 ∧
  (0 ≤ v → n ≤ 1 + (ulebEnc v.toNat).length) ∧ n ≤ 1 + (slebEnc v).length

private theorem NoLonger.le {v : Int} {n : Nat} (h : NoLonger v n) (k' : ConstKind)
    (hv' : validateInt k'.enc none v = true) : n ≤ k'.size v := by
  simp only [NoLonger, Int.reducePow, Int.reduceNeg] at h
  cases k' <;>
    simp only [ConstKind.size, ConstKind.enc, validateInt, inIntDomain_iff, Bool.false_eq_true,
      ↓reduceIte, decide_eq_true_eq, Nat.reduceMul, Nat.reduceSub, Int.reducePow,
      Int.reduceNeg] at hv' ⊢ <;>
    omega

/-- One case for each branch of the chain of `make_const_op`, its guards brought to arithmetic.
Of the LEB lengths a branch needs only that they are positive, at least 2 from 128 (or below -64) on,
and that unsigned is no longer than signed. -/
private theorem makeConst_spec (v : Int) (r : Option ConstKind) (h : makeConst v = r) :
    r.elim (¬ (-(2 ^ 63 : Int) ≤ v ∧ v < (2 ^ 64 : Int)))
      (fun k => (-(2 ^ 63 : Int) ≤ v ∧ v < (2 ^ 64 : Int)) ∧ validateInt k.enc none v = true ∧
        NoLonger v (k.size v)) := by
  have hup := ulebEnc_length_pos v.toNat
  have hsp := slebEnc_length_pos v
  have hus : 0 ≤ v → _ := ulebEnc_length_le_slebEnc
  have u1 := (ulebEnc_length_le v.toNat 0).1
  have s0 := (slebEnc_length_le v 0).1
  simp only [Nat.zero_add, Nat.reducePow] at u1 s0
  subst h
  fun_cases makeConst v
  all_goals
    simp only [Option.elim, NoLonger, ConstKind.size, ConstKind.enc, validateInt, inIntDomain_iff,
      Bool.false_eq_true, ↓reduceIte, decide_eq_true_eq, Nat.reduceMul, Nat.reduceSub,
      Int.reducePow, Int.reduceNeg, true_and] at *
    omega

/-- `make_const_op v` succeeds exactly on `[-2^63, 2^64)` -/
theorem const_domain (v : Int) :
    makeConst v = none ↔ ¬ (-(2 ^ 63 : Int) ≤ v ∧ v < (2 ^ 64 : Int)) := by
  have h := makeConst_spec v _ rfl
  cases hr : makeConst v with
  | none => rw [hr] at h; exact iff_of_true rfl h
  | some k => rw [hr] at h; exact iff_of_false nofun (fun hn => hn h.1)

/-- the chosen operation's operand range contains `v`: the object is
constructible with operand exactly `v` (hence, by `op_roundtrip`, pushes `v`) -/
theorem const_pushes_value (v : Int) (k : ConstKind) (h : makeConst v = some k) :
    validateInt k.enc none v = true :=
  (makeConst_spec v _ h).2.1

/-- **shortest available encoding** -/
theorem const_minimal (v : Int) (k k' : ConstKind) (h : makeConst v = some k)
    (hv' : validateInt k'.enc none v = true) : k.size v ≤ k'.size v :=
  (makeConst_spec v _ h).2.2.le k' hv'

/-- every class that is not emitted as `.cfi_escape` names a directive whose
gas encoding has this class's opcode and operand forms -/
theorem gas_table_agrees :
    Gen.cfiTable.all (fun c =>
      c.directive == ".cfi_escape" ||
      Std.gasDirect.lookup c.directive == some (c.opcode, c.encs)) = true := by decide +kernel

/-- `.cfi_escape` operands are, by definition, the encoded bytes -/
theorem escape_form_same_bytes (bo : ByteOrder) (ptr : Nat) (i : InstObj) (bs : List Nat)
    (hd : i.cls.directive = ".cfi_escape") (h : encodeInst bo ptr i = .ok bs) :
    instOperands bo ptr i = .ok (bs.map Int.ofNat) := by
  simp [instOperands, hd, h, bind, Except.bind]

/-! ## non-vacuity: concrete objects meeting the hypotheses -/

private def bregCls : ClassDesc :=
  { name := "OpBReg", opcode := 0x70, directive := "", fields := [("register", .addOp 32), ("offset", .sleb)] }
private def c2uCls : ClassDesc :=
  { name := "OpConst2U", opcode := 0x0a, directive := "", fields := [("value", .uint 2)] }
private def defCfaExprCls : ClassDesc :=
  { name := "InstDefCFAExpression", opcode := 0x0f, directive := ".cfi_escape", fields := [("expression", .expr)] }

example : (encodeOp .little 8 { cls := bregCls, args := [7, -8] }).toOption = some [0x77, 0x78] := by
  decide +kernel
example : TableOK [bregCls, c2uCls] = true ∧ ExprFree [bregCls, c2uCls] = true := by
  constructor <;> decide +kernel
example : (Gen.exprTable.map (fun c => (c.opcode, c.encs))).contains (0x70, [.addOp 32, .sleb]) = true := by
  decide +kernel
example : makeConst 300 = some .c2u ∧ makeConst (-129) = some .c2s ∧ makeConst 70000 = some .cu := by
  refine ⟨?_, ?_, ?_⟩ <;> decide +kernel
example : (encodeInst .big 4 { cls := defCfaExprCls, args := [.expr [{ cls := c2uCls, args := [0x0102] }]] }).toOption
    = some [0x0f, 3, 0x0a, 1, 2] := by decide +kernel

end GtirbVerif.Props.C14
