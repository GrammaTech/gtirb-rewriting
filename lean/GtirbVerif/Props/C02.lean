import GtirbVerif.Lemmas.IRSyms
import GtirbVerif.Lemmas.IRSymClosed

/-!
# C02 — symbols keep designating the same place in the edited listing

* **specification** — `Listing.checkLabels` (Spec/ListingCheck.lean): every original symbol and
  every label defined by a patch has a position in the edited listing; the driver evaluates it
  on the real before/after modules (oracle).
* **model** — `IR.splitBlock`, `IR.joinBlocks`, `IR.removeBlock` with the reference cache
  replaced by what C20 proves it equivalent to (direct referents); compared with the real code
  on every run (correspondence, whole-IR after every `insert` / `delete`).
* **theorems** (this file, for every IR): the two operations whose interplay the property
  worries about — `split_block` moving `at_end` symbols to the tail and `join_blocks`
  retargeting block2's references with a single flag — move no symbol; `remove_block` sends the
  symbols exactly where the documentation says and leaves none behind on a removed block.
  The place of a symbol is `IR.symPos` = (byte interval, offset), end of the block for `at_end`.

* **over whole rewrites** (Lemmas/IRSymClosed.lean): *no symbol is ever left referring to a block
  that is no longer part of the module* — for `insert` (patches with any number of extra
  sections), `delete`, the loop of `_apply_modifications` over the requests of a block and
  `apply()`'s loop over all blocks.  The invariant `SInv` has two halves: every symbol that
  refers to a block refers to one attached to a byte interval of the module, and the block
  ordering (which `remove_block` asks for the neighbour that inherits the symbols) lists attached
  blocks of the right section, each once per chain.  Premises: the objects of every patch are new
  when it is inserted (`PatchOk`; evaluated on the recorded states of every run, as is `SInv`).

The premise of `join_moves_no_symbol` (no end-of-block symbol on an empty block1 when block2 has
bytes) is not checked by `are_joinable`, which passes an empty block1 unseen;
`split_leaves_no_end_symbol_on_head` shows that the callers in `insert` / `delete`, which always
split first, establish it.
-/
namespace GtirbVerif.Props.C02
open GtirbVerif GtirbVerif.IR

/-- `split_block` moves no symbol (end-of-block symbols follow the tail block). -/
theorem split_moves_no_symbol {ir ir' : IR} {b off nb : Nat} {added : Bool} {blk : Block}
    (h : ir.splitBlock b off = .ok (ir', nb, added)) (hb : ir.block? b = some blk)
    (hfresh : ir.block? ir.next = none) :
    ir'.syms = ir.syms.map (splitSym b nb) ∧
    ∀ y pos, ir.symPos y = some pos → ir'.symPos (splitSym b nb y) = some pos :=
  ⟨(splitBlock_syms_blocks h hb).2.2.1, fun y pos hy => splitBlock_symPos h hb hfresh y pos hy⟩

/-- after `split_block` the head block carries no end-of-block symbol -/
theorem split_leaves_no_end_symbol_on_head {ir ir' : IR} {b off nb : Nat} {added : Bool} {blk : Block}
    (h : ir.splitBlock b off = .ok (ir', nb, added)) (hb : ir.block? b = some blk)
    (hfresh : ir.block? ir.next = none) :
    ∀ y ∈ ir'.syms, y.ref = .block b → y.atEnd = false := by
  obtain ⟨hnb, _, hsyms, _⟩ := splitBlock_syms_blocks h hb
  have hne : nb ≠ b := by rintro rfl; rw [hnb, hfresh] at hb; cases hb
  intro y hy hr
  rw [hsyms] at hy
  obtain ⟨y0, _, rfl⟩ := List.mem_map.mp hy
  by_cases hc : y0.ref = .block b ∧ y0.atEnd = true
  · rw [splitSym_end hc.1 hc.2] at hr
    exact absurd (Referent.block.inj hr) hne
  · rw [splitSym_other hc] at hr ⊢
    exact Bool.eq_false_iff.mpr (fun ha => hc ⟨hr, ha⟩)

/-- `join_blocks` moves no symbol: block2's references land on block1 — on its start when
block1 is empty (keeping their flag), on its end otherwise, which is where block2 began and,
for `at_end` references, where it ended.  Labels at the end of a non-empty block1 are safe because
`are_joinable` refuses such a join (it did not before the repair recorded for C02: the hypothesis
this theorem used to need was exactly the failing input). -/
theorem join_moves_no_symbol {ir ir' : IR} {id1 id2 : Nat} {b1 b2 : Block}
    (h : ir.joinBlocks id1 id2 = .ok ir') (h1 : ir.block? id1 = some b1) (h2 : ir.block? id2 = some b2)
    (hne : id1 ≠ id2)
    (hend : b1.size = 0 → b2.size = 0 ∨ ∀ y ∈ ir.syms, y.ref = .block id1 → y.atEnd = false) :
    ir'.syms = ir.syms.map (joinSym b1 id2) ∧
    ∀ y ∈ ir.syms, ∀ pos, ir.symPos y = some pos → ir'.symPos (joinSym b1 id2 y) = some pos := by
  -- when block1 is not empty, `are_joinable` itself refuses to bury a label that stands at its end
  have hend' : b2.size = 0 ∨ ∀ y ∈ ir.syms, y.ref = .block id1 → y.atEnd = false := by
    by_cases hz : b1.size = 0
    · exact hend hz
    · have e1 : b1.id = id1 := block?_id h1
      rcases notJoinable_none_end (joinBlocks_syms_blocks h h1 h2).1 with h0 | h0 | h0
      · exact absurd h0 hz
      · exact Or.inl h0
      · exact Or.inr (e1 ▸ h0)
  exact ⟨(joinBlocks_syms_blocks h h1 h2).2.1, fun y hy pos hp => joinBlocks_symPos h h1 h2 hne hend' y hy pos hp⟩

/-- `remove_block`: the references of a removed block go to the fresh proxy
(`retarget_to_proxy`), else the start of the next block, else the end of the previous block;
a block that must stay keeps them. -/
theorem remove_retargets {ir ir' : IR} {b : Nat} {px r : Bool} {blk : Block}
    (h : ir.removeBlock b px = .ok (ir', r)) (hb : ir.block? b = some blk) :
    ir'.syms = if r then
        ir.syms.map (removeSym b (removeTarget (if px then some ir.next else none) (ir.adjacent blk).2 (ir.adjacent blk).1))
      else ir.syms :=
  removeBlock_syms h hb

/-- the target chosen by `remove_block` -/
theorem remove_target_rule (proxy next prev : Option Nat) :
    removeTarget proxy next prev =
      match proxy, next, prev with
      | some p, _, _ => (.proxy p, false)
      | none, some n, _ => (.block n, false)
      | none, none, some p => (.block p, true)
      | none, none, none => (.none, false) := rfl

/-- No symbol is left referring to a block that is no longer part of the module. -/
theorem remove_leaves_no_symbol_behind {ir ir' : IR} {b : Nat} {px : Bool} {blk : Block}
    (h : ir.removeBlock b px = .ok (ir', true)) (hb : ir.block? b = some blk)
    (ht : (removeTarget (if px then some ir.next else none) (ir.adjacent blk).2 (ir.adjacent blk).1).1 ≠ .block b) :
    ∀ y ∈ ir'.syms, y.ref ≠ .block b := by
  have hs := removeBlock_syms h hb
  simp only [if_true] at hs
  intro y hy
  rw [hs] at hy
  obtain ⟨y0, _, rfl⟩ := List.mem_map.mp hy
  unfold removeSym
  split
  · exact ht
  · rename_i hne; simpa using hne

/-- **over a whole `apply()`**: whatever requests the blocks get, when the loop over all blocks is
through every symbol that refers to a block refers to a block of the module — one that is attached
to a byte interval of one of its sections (and the invariant that makes this so still holds) -/
theorem no_symbol_is_left_on_a_block_that_left_the_module (rs : List BlockMods) (ir ir' : IR)
    (h : ir.applyAll rs = .ok ir') (hI : IdsBelow ir) (hok : ∀ r ∈ rs, ReqOk ir r) (hnd : (rs.map (ivOf ir)).Nodup)
    (hnew : NewPatchesAll ir rs) (hinv : SInv ir) :
    SInv ir' ∧ ∀ y ∈ ir'.syms, ∀ b, y.ref = .block b →
      ∃ blk s, ir'.block? b = some blk ∧ blk.bi ≠ none ∧ ir'.sectionOf blk = some s := by
  obtain ⟨s1, o1⟩ := applyAll_sinv rs ir ir' h hI hok hnd hnew hinv.1 hinv.2
  refine ⟨⟨s1, o1⟩, ?_⟩
  intro y hy b hb
  rcases s1 y hy b hb with ⟨s, blk, hblk, hs⟩ | hp
  · exact ⟨blk, s, hblk, sectionOf_some_bi hs, hs⟩
  · cases hp

/-- … and after each single `insert` -/
theorem insert_leaves_no_symbol_behind {ir ir' : IR} {b off repl last : Nat} {p : Patch}
    (h : ir.insert b off repl p = .ok (ir', last)) (hinv : SInv ir) (hI : IdsBelow ir) (hp : PatchOk ir p) : SInv ir' :=
  insert_sinv h hinv.1 hinv.2 hI hp

/-- … and each single `delete` -/
theorem delete_leaves_no_symbol_behind {ir ir' : IR} {b off len : Nat} {px : Bool} {r : Option Nat}
    (h : ir.delete b off len px = .ok (ir', r)) (hinv : SInv ir) (hI : IdsBelow ir) : SInv ir' :=
  delete_sinv h hinv.1 hinv.2 hI

/-! ### non-vacuity: a block with a start and an end symbol, split in the middle -/

private def demo : IR :=
  { sections := [(0, ".text")],
    intervals := [{ id := 1, sect := 0, addr := some 0, size := 4, bytes := [1, 2, 3, 4], symExprs := [] }],
    blocks := [{ id := 2, isCode := false, bi := some 1, off := 0, size := 4 }],
    syms := [{ id := 3, name := "a", ref := .block 2, atEnd := false }, { id := 4, name := "e", ref := .block 2, atEnd := true }],
    order := [(0, [[2]])], next := 10 }

example : demo.block? demo.next = none := by decide
example : (demo.syms.map demo.symPos) = [some (1, 0), some (1, 4)] := by decide
example : (match demo.splitBlock 2 1 with
    | .ok (ir', nb, _) => (ir'.syms.map ir'.symPos, nb)
    | .error _ => ([], 0)) = ([some (1, 0), some (1, 4)], 10) := by decide

-- the invariant of the whole-rewrite theorems holds of the example module (executable form)
example : demo.symsOkB = true ∧ demo.ordOkB = true := by decide
example : SInv demo := sinvB_sound (by decide) (by decide)
example : (match demo.delete 2 1 2 false with
    | .ok (ir', _) => ir'.symsOkB && ir'.ordOkB
    | .error _ => false) = true := by decide

end GtirbVerif.Props.C02
