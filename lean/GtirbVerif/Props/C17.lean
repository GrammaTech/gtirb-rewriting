import GtirbVerif.Lemmas.AbiCall
import GtirbVerif.Gen.AbiFull
import GtirbVerif.Spec.Platform

/-!
# C17 — CallPatch follows the calling convention and is stack-neutral
-/
namespace GtirbVerif.Props.C17
open GtirbVerif GtirbVerif.Abi

/-- **argument assignment**: the i-th argument goes with the i-th convention
register; arguments beyond the register list get none (they go to the stack,
in order) — for any number of arguments and any register list -/
theorem arg_in_reg (regs : List String) (args : List ArgVal) (i : Nat) :
    (passedArgs regs args)[i]? = args[i]?.map (fun a => (a, regs[i]?)) ∧
    (passedArgs regs args).length = args.length :=
  ⟨passedArgs_get regs args i, passedArgs_length regs args⟩

/-- the default conventions handed to CallPatch (regenerated from `abi._ABIS`)
are the platform ABIs' -/
theorem conventions_standard :
    Gen.abiAll.all (fun abi =>
      Std.callConv.lookup (abi.isa, abi.ff) == some (abi.ccRegs, abi.ccAlign, abi.ccShadow)) = true := by
  decide +kernel

/-- **x86 (IA32, x86-64; System V, Microsoft, any custom convention): state at
the call and stack neutrality**, for every argument list, every convention
with distinct registers, every reported prologue adjustment -/
theorem x86_call (env : SymEnv) (W : Nat) (hW : 0 < W) (lo hi : Int) (conv : Conv) (f : String)
    (args : List ArgVal) (adj : Option Nat) (σ : CM)
    (hvalid : ∀ p ∈ passedArgs conv.regs args, x86ArgValid lo hi p) (hnd : conv.regs.Nodup) :
    let pa := passedArgs conv.regs args
    let argStack := W * stackArgCount pa
    let total := adj.getD 0 + argStack + conv.shadow
    let padding := alignUp total conv.align - total
    let calleePops : Int := if conv.callerCleanup then 0 else argStack
    ∃ σ' regs spc mem, crun env W lo hi calleePops (x86Call W conv f args adj) σ = .ok σ' ∧
      σ'.sp = σ.sp ∧ σ'.snap = some (f, regs, spc, mem) ∧
      spc = σ.sp - padding - argStack - conv.shadow ∧
      (∀ a r, (a, some r) ∈ pa → regs r = x86Val env a) ∧
      (∀ j (hj : j < (stackVals pa).length),
        mem (spc + conv.shadow + W * j) = some (x86Val env ((stackVals pa)[j]))) := by
  intro pa argStack total padding calleePops
  obtain ⟨σ', regs, spc, mem, hrun, hsp, hsnap, hspc, hregs, hmem⟩ :=
    x86_seq_at env W calleePops (Int.natCast_pos.mpr hW) padding conv.shadow
      (conv.shadow + padding + (if conv.callerCleanup then argStack else 0)) f pa σ hvalid
      ((regsOf_passedArgs conv.regs args).nodup hnd)
  rw [stackVals_length] at hspc
  refine ⟨σ', regs, spc, mem, x86Call_eq W conv f args adj ▸ hrun, ?_, hsnap,
    by rw [hspc]; simp only [argStack, Int.natCast_mul], hregs, hmem⟩
  -- what is subtracted before the call is added back after it, whichever side cleans up
  rw [hsp, hspc]
  simp only [calleePops, argStack]
  by_cases hcc : conv.callerCleanup = true
  · simp only [hcc, ↓reduceIte, Int.natCast_add, Int.natCast_mul]; omega
  · simp only [hcc, Bool.false_eq_true, ↓reduceIte, Int.natCast_add, Int.natCast_mul]; omega

/-- **aligned at the call**: if the address `adj` above the patch's entry `sp`
is aligned to the convention (the prologue's adjustment is known), or the
entry `sp` itself is (align_stack, adjustment unknown = 0 here), the stack
pointer at the call is aligned — shadow space included -/
theorem aligned_at_call (W : Nat) (conv : Conv) (nStack : Nat) (adj : Option Nat) (sp0 : Int)
    (ha : 0 < conv.align) (h0 : sp0 % (conv.align : Int) = 0) :
    let argStack := W * nStack
    let total := adj.getD 0 + argStack + conv.shadow
    let padding := alignUp total conv.align - total
    ((sp0 - (adj.getD 0 : Nat)) - padding - argStack - conv.shadow) % (conv.align : Int) = 0 := by
  intro argStack total padding
  obtain ⟨h1, h2, _⟩ := alignUp_spec total conv.align ha
  -- the call happens `alignUp total` below the aligned address
  have : sp0 - ((adj.getD 0 : Nat) : Int) - padding - argStack - conv.shadow =
      sp0 - (alignUp total conv.align : Int) := by simp only [padding, total] at h2 ⊢; omega
  rw [this]
  exact Int.emod_eq_zero_of_dvd (Int.dvd_sub (Int.dvd_of_emod_eq_zero h0)
    (Int.natCast_dvd_natCast.mpr (Nat.dvd_of_mod_eq_zero h1)))

/-- integers arrive exactly on ARM64 (mod 2^64), through `mov`, or `movz` and
the needed `movk`s — for every integer -/
theorem int_exact_arm64 (env : SymEnv) (W lo hi cp : Int) (r : String) (v : Int) (σ : CM) :
    ∃ σ', crun env W lo hi cp (loadImmediate r v) σ = .ok σ' ∧ σ'.reg r = v % 2 ^ 64 ∧
      (∀ r', r' ≠ r → σ'.reg r' = σ.reg r') ∧ σ'.sp = σ.sp ∧ σ'.mem = σ.mem ∧ σ'.snap = σ.snap :=
  ⟨_, crun_loadImmediate r v σ, by simp [setReg], fun r' hr' => by simp [setReg, hr'],
    rfl, rfl, rfl⟩

/-- a symbol argument arrives as the symbol's address on ARM64 -/
theorem sym_is_address_arm64 (env : SymEnv) (W lo hi cp : Int) (r s : String) (σ : CM) :
    ∃ σ', crun env W lo hi cp (loadArg r (.sym s)) σ = .ok σ' ∧ σ'.reg r = env.addr s ∧
      (∀ r', r' ≠ r → σ'.reg r' = σ.reg r') ∧ σ'.sp = σ.sp ∧ σ'.mem = σ.mem := by
  let f1 := setReg σ.reg r (env.addr s - env.addr s % 4096)
  refine ⟨{ σ with reg := setReg f1 r (f1 r + env.addr s % 4096) },
    by simp [loadArg, crun, cstep, f1], ?_, ?_, rfl, rfl⟩
  · simp only [setReg, ↓reduceIte, f1]; omega
  · intro r' hr'; simp [setReg, hr', f1]

/-- **negative witness (known finding)**: on x86 a symbol argument is passed
with `mov reg, sym[rip]` / `push sym[rip]`, a *load*: the callee receives the
word stored at the symbol, not its address. Kernel-checked on a concrete
environment where the two differ. -/
theorem symbol_argument_x86_partial :
    ∃ (env : SymEnv) (σ : CM) (σ' : CM),
      crun env 8 (-(2 ^ 31)) (2 ^ 31) 0
        (x86Call 8 { regs := ["RDI"], align := 16, callerCleanup := true, shadow := 0 } "f" [.sym "s"] (some 0)) σ
        = .ok σ' ∧
      (match σ'.snap with
       | some (_, regs, _, _) => regs "RDI" = env.contents "s" ∧ regs "RDI" ≠ env.addr "s"
       | none => False) := by
  refine ⟨{ addr := fun _ => 0x1000, contents := fun _ => 42 },
    { reg := fun _ => 0, sp := 0x8000, mem := fun _ => none }, _, rfl, ?_⟩
  decide

/-- the ARM64 stack reservation is a multiple of 16, so a 16-byte aligned `sp`
stays aligned at the `bl` -/
theorem arm64_reservation_aligned (n : Nat) : alignUp (n * 8) 16 % 16 = 0 ∧ n * 8 ≤ alignUp (n * 8) 16 := by
  have := alignUp_spec (n * 8) 16 (by omega)
  exact ⟨this.1, this.2.1⟩

/-! ## non-vacuity -/

example : x86Call 8 { regs := ["RCX", "RDX", "R8", "R9"], align := 16, callerCleanup := true, shadow := 32 }
    "f" [.int 1, .int 2, .int 3, .int 4, .int 5] (some 8) =
    [.pushImm 5, .movImm "R9" 4, .movImm "R8" 3, .movImm "RDX" 2, .movImm "RCX" 1, .subSp 32, .call "f",
      .addSp 40] := by decide +kernel

end GtirbVerif.Props.C17
