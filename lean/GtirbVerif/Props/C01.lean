import GtirbVerif.Lemmas.IRBytes
import GtirbVerif.Lemmas.Splice
import GtirbVerif.Lemmas.IRBatch
import GtirbVerif.Lemmas.IRAll

/-!
# C01 — rewriting edits bytes exactly like editing the assembly listing

The statement quantifies over all modules and all sets of non-overlapping requests.  It is
decided in three layers (DESIGN.md §C01):

* **specification** — `Listing.spliceSpec` (Spec/Listing.lean) *is* the sentence "the original
  bytes with each patch spliced in at its offset and each replaced range removed";
  `Listing.layoutPieces` adds the alignment padding.  The driver evaluates it on the real
  before/after modules (oracle).
* **model** — `IR.insert` / `IR.delete` (Model/IR) follow `_modify/edit.py` statement by
  statement, `Batch.seqSplice` follows the offset bookkeeping of `_apply_modifications`;
  both are compared with the real code on every run (correspondence).
* **theorems** (this file, for every IR, every patch, every list of edits): an `insert` is a
  splice of the patch bytes and a `delete` a splice of nothing, *no other byte of the module
  changes* through all the splitting / joining / removing / CFG and aux-data fix-ups, and the
  running-offset loop over sorted disjoint edits computes exactly `spliceSpec`.
-/
namespace GtirbVerif.Props.C01
open GtirbVerif GtirbVerif.IR GtirbVerif.Listing GtirbVerif.Batch

/-- `edit_byte_interval` splices the target interval … -/
theorem edit_is_splice (ir : IR) (i off len : Nat) (content st : List Nat) (iv : Interval)
    (h : ir.interval? i = some iv) :
    (ir.editInterval i off len content st).bytesOf i = some (iv.bytes.take off ++ content ++ iv.bytes.drop (off + len)) := by
  unfold IR.bytesOf
  rw [editInterval_interval? ir i off len content st iv h, if_pos rfl]; rfl

/-- … and no other one. -/
theorem edit_frame (ir : IR) (i j off len : Nat) (content st : List Nat) (hj : j ≠ i) :
    (ir.editInterval i off len content st).bytesOf j = ir.bytesOf j := by
  cases h : ir.interval? i with
  | none => unfold IR.editInterval; rw [h]
  | some iv => unfold IR.bytesOf; rw [editInterval_interval? ir i off len content st iv h, if_neg hj]

/-- Splitting a block never changes a byte. -/
theorem split_keeps_bytes {ir ir' : IR} {b off nb : Nat} {added : Bool}
    (h : ir.splitBlock b off = .ok (ir', nb, added)) (j : Nat) : ir'.bytesOf j = ir.bytesOf j :=
  bytesOf_congr (splitBlock_intervals h) j

/-- Joining two blocks never changes a byte. -/
theorem join_keeps_bytes {ir ir' : IR} {a b : Nat} (h : ir.joinBlocks a b = .ok ir') (j : Nat) :
    ir'.bytesOf j = ir.bytesOf j :=
  bytesOf_congr (joinBlocks_intervals h) j

/-- Removing a block (symbols, edges, aux data) never changes a byte: `delete` removes the
bytes separately through `edit_byte_interval`. -/
theorem remove_keeps_bytes {ir ir' : IR} {b : Nat} {px r : Bool}
    (h : ir.removeBlock b px = .ok (ir', r)) (j : Nat) : ir'.bytesOf j = ir.bytesOf j :=
  bytesOf_congr (removeBlock_intervals h) j

/-- The clean-up loop over zero-sized blocks never changes a byte. -/
theorem cleanup_keeps_bytes {ir ir' : IR} {bl : List Nat} {last : Nat}
    (h : ir.cleanup bl = .ok (ir', last)) (j : Nat) : ir'.bytesOf j = ir.bytesOf j :=
  bytesOf_congr (cleanup_intervals h) j

/-- **`delete(block, offset, length)`**: the interval of the block loses exactly the bytes
`[block.offset + offset, +length)`; every other interval is unchanged. -/
theorem delete_is_splice {ir ir' : IR} {b off len : Nat} {px : Bool} {r : Option Nat} {blk : Block} {i : Nat}
    {iv : Interval} (h : ir.delete b off len px = .ok (ir', r))
    (hb : ir.block? b = some blk) (hbi : blk.bi = some i) (hiv : ir.interval? i = some iv) :
    ir'.bytesOf i = some (iv.bytes.take (blk.off + off) ++ iv.bytes.drop (blk.off + off + len)) ∧
    ∀ j, j ≠ i → ir'.bytesOf j = ir.bytesOf j := by
  have := delete_bytes h hb hbi hiv
  simpa [spliceBytes] using this

/-- **`insert(block, offset, replacement_length, patch)`**: the interval of the block gets the
patch's assembled bytes in place of `[block.offset + offset, +replacement_length)`; every
other interval the module had keeps its bytes (the patch may add intervals in other
sections). -/
theorem insert_is_splice {ir ir' : IR} {b off repl last : Nat} {p : Patch} {blk : Block} {i : Nat} {iv : Interval}
    (h : ir.insert b off repl p = .ok (ir', last))
    (hb : ir.block? b = some blk) (hbi : blk.bi = some i) (hiv : ir.interval? i = some iv) :
    ir'.bytesOf i = some (iv.bytes.take (blk.off + off) ++ p.text.data ++ iv.bytes.drop (blk.off + off + repl)) ∧
    ∀ j, j ≠ i → ir.bytesOf j ≠ none → ir'.bytesOf j = ir.bytesOf j :=
  insert_bytes h hb hbi hiv

/-- **The offset bookkeeping of `_apply_modifications`.**  For sorted, pairwise disjoint edits
of a block that sits at `|pfx|` in its interval, applying them one after the other at
`block.offset + offset + total_insert_len` turns `pfx ++ block ++ sfx` into
`pfx ++ spliceSpec block ++ sfx`: every patch exactly once at its offset, in the order of
the list, every deleted range gone, every other byte where it was relative to its
neighbours. -/
theorem sequential_is_simultaneous (block pfx sfx : List Nat) (es : List LEdit)
    (h : Disjoint block.length 0 es) :
    seqSplice pfx.length (pfx ++ block ++ sfx) 0 es = pfx ++ spliceSpec block 0 es ++ sfx :=
  seqSplice_block_in_interval block pfx sfx es h

/-- size accounting of the splice -/
theorem splice_length (block : List Nat) (es : List LEdit) (h : Disjoint block.length 0 es) :
    (spliceSpec block 0 es).length + (es.map (·.del)).sum = block.length + (es.map (·.ins.length)).sum := by
  have := spliceSpec_length block.length block rfl es 0 (Nat.zero_le _) h
  simpa using this

/-- **The loop of `_apply_modifications`, on the IR, for every list of resolved requests of a
block.**  `IR.applyMods` carries out request after request with `IR.insert` / `IR.delete` on
the block the previous request returned, at `offset + total_insert_len - block_delta`.  If it
succeeds on sorted, pairwise disjoint requests, the byte interval of the block holds what
was in front of the block, then *the listing splice of the block's bytes* - every patch
exactly once at its offset, in list order, every deleted or replaced range gone - then what
was behind it; every other interval the module had is untouched.

Hypotheses: the block lies inside the initialized bytes of its interval; block ids in use are
below the model's id counter (`IdsBelow`: true of every state the harness hands to the
model, and kept by every operation); the blocks of each patch are new objects when the
patch is inserted (`NewBlocks`); `Disjoint` is what `resolve_offsets` establishes. -/
theorem loop_is_listing {ir ir' : IR} {b i : Nat} {blk : Block} {iv : Interval} {ms : List Mod} {func : Option Nat}
    (h : ir.applyMods blk.off func (some b) 0 ms = .ok ir')
    (hb : ir.block? b = some blk) (hbi : blk.bi = some i) (hiv : ir.interval? i = some iv)
    (hfit : blk.off + blk.size ≤ iv.bytes.length)
    (hI : IdsBelow ir) (hnew : NewBlocks blk.off func ir (some b) 0 ms)
    (hd : Disjoint blk.size 0 (ms.map Mod.toLEdit)) :
    ir'.bytesOf i = some (iv.bytes.take blk.off ++
        spliceSpec ((iv.bytes.drop blk.off).take blk.size) 0 (ms.map Mod.toLEdit) ++
        iv.bytes.drop (blk.off + blk.size)) ∧
    ∀ j, j ≠ i → ir.bytesOf j ≠ none → ir'.bytesOf j = ir.bytesOf j := by
  have hcur : ir.bytesOf i = some iv.bytes := by unfold IR.bytesOf; rw [hiv]; rfl
  obtain ⟨r1, r2, _⟩ := applyMods_listing h hb hbi hcur hfit hI hnew hd
  exact ⟨r1, r2⟩

/-- **`apply()`'s loop over all the blocks that have requests.**  `IR.applyAll` hands each block's
resolved requests to `IR.applyMods`; during a rewrite every block has a byte interval of its
own.  If it succeeds, the interval of *every* edited block holds the listing splice of that
block (`expected`), and every other interval the module had is untouched: the requests of one
block never move, resize or re-home a non-empty block of another interval (`Frame`, proved
through split, join, remove, clean-up, patch placement and the whole loop), so each later
request list finds its block and its bytes as they were.

Hypotheses, per request list: a non-empty block inside the initialized bytes of its interval,
sorted disjoint requests (`ReqOk`); the edited blocks lie in pairwise different intervals;
ids below the counter; patch blocks are new objects when inserted (`NewBlocksAll`). -/
theorem all_blocks_are_listing_edits (rs : List BlockMods) (ir ir' : IR)
    (h : ir.applyAll rs = .ok ir') (hI : IdsBelow ir) (hok : ∀ r ∈ rs, ReqOk ir r)
    (hnd : (rs.map (ivOf ir)).Nodup) (hnew : NewBlocksAll ir rs) :
    (∀ r ∈ rs, ∀ i, ivOf ir r = some i → ir'.bytesOf i = expected ir r) ∧
    (∀ j, (∀ r ∈ rs, ivOf ir r ≠ some j) → ir.bytesOf j ≠ none → ir'.bytesOf j = ir.bytesOf j) := by
  induction rs generalizing ir with
  | nil =>
    unfold IR.applyAll at h
    cases h
    exact ⟨fun _ hr => (by cases hr), fun _ _ _ => rfl⟩
  | cons r rest ih =>
    obtain ⟨blk, ir1, hb, hm, h⟩ := applyAll_cons_ok h
    obtain ⟨hn1, hn2⟩ := hnew.cons hb
    obtain ⟨i, hivr, s1, s1', s2, _, hrest⟩ := applyAll_head hb hm hI hok hnd hn1
    obtain ⟨hI1, hok1, hnd1⟩ := applyAll_step hb hm hI hok hnd hn1
    obtain ⟨t1, t2⟩ := ih ir1 h hI1 hok1 hnd1 (hn2 ir1 hm)
    -- a later request list writes neither interval `i` nor an interval none of the lists is registered for
    have hlater : ∀ j, (∀ r' ∈ rest, ivOf ir r' ≠ some j) → ir1.bytesOf j ≠ none → ir'.bytesOf j = ir1.bytesOf j :=
      fun j hj => t2 j (fun r' hr' => by rw [(hrest r' hr').2.2.1]; exact hj r' hr')
    constructor
    · intro r' hr' i' hi'
      rcases List.mem_cons.mp hr' with rfl | hr''
      · obtain rfl : i = i' := Option.some.inj (hivr.symm.trans hi')
        rw [hlater i (fun r2 hr2 => (hrest r2 hr2).1) s1', s1]
      · rw [← (hrest r' hr'').2.2.2]
        exact t1 r' hr'' i' (by rw [(hrest r' hr'').2.2.1]; exact hi')
    · intro j hj hne
      have hji : j ≠ i := fun he => hj r List.mem_cons_self (by rw [hivr, he])
      have h1 : ir1.bytesOf j = ir.bytesOf j := s2 j hji hne
      rw [← h1]
      exact hlater j (fun r' hr' => hj r' (List.mem_cons_of_mem _ hr')) (by rw [h1]; exact hne)

/-! ### the hypotheses are satisfiable (non-vacuity) -/

private def exIR : IR :=
  { sections := [(0, ".data")],
    intervals := [{ id := 7, sect := 0, addr := some 0x1000, size := 5, bytes := [0, 1, 2, 3, 4], symExprs := [] }],
    blocks := [{ id := 1, isCode := false, bi := some 7, off := 1, size := 4 }],
    order := [(0, [[1]])], next := 2 }

private def exMods : List Mod := [.del 0 1 false, .del 2 1 false]

example : exIR.block? 1 = some { id := 1, isCode := false, bi := some 7, off := 1, size := 4 } := rfl
example : IdsBelow exIR := by intro k hk; simp [IR.ids, exIR] at hk; subst hk; decide
example : Disjoint 4 0 (exMods.map Mod.toLEdit) := by simp [Disjoint, exMods, Mod.toLEdit, Mod.off, Mod.len]
example : NewBlocks 1 none exIR (some 1) 0 exMods := by
  unfold exMods NewBlocks
  intro ir' r _
  cases r with
  | none => simp [NewBlocks]
  | some a =>
    unfold NewBlocks
    split
    · trivial
    · intro _ _ _; simp [NewBlocks]
private def exIR2 : IR :=
  { sections := [(0, ".data")],
    intervals := [{ id := 7, sect := 0, addr := some 0x1000, size := 3, bytes := [1, 2, 3], symExprs := [] },
                  { id := 8, sect := 0, addr := some 0x1003, size := 2, bytes := [4, 5], symExprs := [] }],
    blocks := [{ id := 1, isCode := false, bi := some 7, off := 0, size := 3 },
               { id := 2, isCode := false, bi := some 8, off := 0, size := 2 }],
    order := [(0, [[1], [2]])], next := 3 }

private def exReqs : List BlockMods := [⟨1, none, [.del 1 1 false]⟩, ⟨2, none, [.del 0 1 false]⟩]

example : (exReqs.map (ivOf exIR2)) = [some 7, some 8] := rfl
example : ∀ r ∈ exReqs, ReqOk exIR2 r := by
  intro r hr
  simp only [exReqs, List.mem_cons, List.not_mem_nil, or_false] at hr
  rcases hr with rfl | rfl
  · exact ⟨_, 7, [1, 2, 3], rfl, rfl, by decide, rfl, by decide, by simp [Disjoint, Mod.toLEdit, Mod.off, Mod.len]⟩
  · exact ⟨_, 8, [4, 5], rfl, rfl, by decide, rfl, by decide, by simp [Disjoint, Mod.toLEdit, Mod.off, Mod.len]⟩
example : expected exIR2 ⟨1, none, [.del 1 1 false]⟩ = some [1, 3] := by decide
example : ((exIR2.applyAll exReqs).toOption.map (fun r => (r.bytesOf 7, r.bytesOf 8))) = some (some [1, 3], some [5]) := by
  decide +kernel

/-- the loop succeeds on it, and the bytes are the listing's: `1` and `3` are gone -/
example : ((exIR.applyMods 1 none (some 1) 0 exMods).toOption.bind (·.bytesOf 7)) = some [0, 2, 4] := by decide +kernel

private def e1 : LEdit := { block := 0, off := 1, del := 0, ins := [9, 9], labels := [], aligns := [], proxy := false, order := 0, tailCode := true, exprs := [], exprSizes := [] }
private def e2 : LEdit := { e1 with off := 2, del := 2, ins := [7], order := 1 }

example : Disjoint [1, 2, 3, 4, 5].length 0 [e1, e2] := by simp [Disjoint, e1, e2]
example : spliceSpec [1, 2, 3, 4, 5] 0 [e1, e2] = [1, 9, 9, 2, 7, 5] := by decide
example : seqSplice 1 ([0] ++ [1, 2, 3, 4, 5] ++ [6]) 0 [e1, e2] = [0, 1, 9, 9, 2, 7, 5, 6] := by decide

end GtirbVerif.Props.C01
