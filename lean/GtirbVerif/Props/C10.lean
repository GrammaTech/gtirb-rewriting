import GtirbVerif.Lemmas.Intervals
import GtirbVerif.Lemmas.FirstAlign
import GtirbVerif.Lemmas.JoinPad

/-!
# C10 — no-op rewrites are the identity; split/join round-trips; alignment

* **model** — `Intervals.split` / `Intervals.join` follow `split_byte_interval` and
  `join_byte_intervals` (grouping of overlapping blocks, the cut loop from the back, padding of
  uninitialized tails and for alignment with nops after code / zeros after data, padding blocks);
  the real functions are run on generated intervals and compared with the model on every run
  (correspondence), the real results are checked against the statement itself (every block keeps
  bytes, address and annotations; groups alone in their interval; alignment holds), an empty
  `apply()` is compared with the identity, alignment is checked after arbitrary rewrites.
* **theorems** (this file, for every interval): `join(split(interval))` restores a fully
  initialized interval exactly — address, size, bytes, blocks and table entries at their
  offsets (as sets) — for every nop encoding; one iteration of the cut loop is undone by
  appending; a cut keeps the bytes and the absolute address of every block it moves; the
  padding arithmetic reaches the boundary with less than one boundary of padding; the padding the
  listing specification (`Listing.layoutPieces`, the oracle for "the only bytes added are whole
  nops or zeros") puts in front of a piece is shorter than the strictest alignment requested at
  the piece's first aligned offset and satisfies *every* request made there (a block's own
  `.align` and a patch's at offset 0), alignments being powers of two.
  About the model of `join_byte_intervals` itself, with alignment demands, uninitialized tails and any
  nop encoding (Lemmas/JoinPad.lean): appending an interval adds exactly the fill of the
  uninitialized tail and the alignment padding in front of the appended bytes - whole nops behind
  code, zeros behind data, shorter than the boundary -, moves the appended blocks and table entries
  by one displacement and puts the block whose alignment is asked for on its boundary; over the
  whole loop the bytes already placed stay where they are, every placed block stays placed, and
  every appended interval sits in the result unchanged at a displacement at which its aligned block
  is aligned.
-/
namespace GtirbVerif.Props.C10
open GtirbVerif.Intervals

/-- **round trip** -/
theorem join_split_restores (iv : Iv) (h : WF iv) (nop : List Nat) (nextId : Nat) :
    ∃ r, join nop (fun _ => none) ((split iv).map (fun s => (s, (none : Option Nat)))) nextId = .ok r ∧ Same r iv := by
  -- the pieces glue back with `joinPlain` (`split_glue`), and on fully initialized pieces without
  -- alignment demands the loop of `join` is that gluing (`joinFold_plain`)
  obtain ⟨d, rest, hsp, hfull, hs⟩ := split_glue iv h
  obtain ⟨hd, hrest⟩ := List.forall_mem_cons.mp hfull
  obtain ⟨st', h1, h2⟩ := joinFold_plain nop rest (.init d nextId) hd hrest
  exact ⟨st'.dest, hsp ▸ join_ok_iff.mpr ⟨st', h1, rfl⟩, h2 ▸ hs⟩

/-- one iteration of the split loop (the last group `g` of the blocks is cut off) is undone by
appending -/
theorem cut_is_undone_by_append (iv : Iv) (front g : List Blk) (hb : iv.blocks = front ++ g)
    (hge : ∀ b ∈ g, beginOf g ≤ b.off) (hf : Full iv) (hc : beginOf g ≤ iv.size) :
    Same (joinPlain (cutOne iv g).1 (cutOne iv g).2) iv :=
  cut_then_join iv front g hb hge hf hc

/-- a block moved into the new interval keeps its bytes and its absolute address -/
theorem cut_keeps_block_bytes_and_address (iv : Iv) (g : List Blk) (b : Blk) (hb : b ∈ g) (hc : beginOf g ≤ b.off) :
    ({ b with off := b.off - beginOf g } : Blk) ∈ (cutOne iv g).2.blocks ∧
    (((cutOne iv g).2.contents.drop (b.off - beginOf g)).take b.size = (iv.contents.drop b.off).take b.size) ∧
    ((cutOne iv g).2.addr.map (· + (b.off - beginOf g)) = iv.addr.map (· + b.off)) := by
  unfold cutOne
  simp only []
  refine ⟨?_, ?_, ?_⟩
  · exact List.mem_map.mpr ⟨b, hb, rfl⟩
  · rw [List.drop_drop]
    congr 2
    omega
  · cases iv.addr with
    | none => rfl
    | some a => simp only [Option.map_some]; congr 1; omega

/-- grouping loses no block: the groups, in order, are the blocks -/
theorem groups_partition_the_blocks (iv : Iv) : (groups iv).flatten = iv.blocks :=
  (groupRuns_spec iv.blocks [] 0).1

/-- padding arithmetic: the next boundary is reached with less than one boundary of padding -/
theorem padding_reaches_the_boundary (x a : Nat) (ha : 1 < a) :
    alignUp x a % a = 0 ∧ x ≤ alignUp x a ∧ alignUp x a < x + a :=
  alignUp_spec x a ha

/-- the padding of `layoutPieces` for any boundary `a`: shorter than `a`, and what it reaches is a multiple of
every divisor of `a` -/
private theorem listing_padding_of_dvd (o a x : Nat) (ha : 1 < a) :
    Listing.alignUpN (x + o) a - (x + o) < a ∧
    ∀ d, d ∣ a → (x + (Listing.alignUpN (x + o) a - (x + o)) + o) % d = 0 := by
  -- `Listing.alignUpN` is `Intervals.alignUp` written a second time, so this padding is `alignPad (o, a) x`
  obtain ⟨hlt, hmod⟩ : Listing.alignUpN (x + o) a - (x + o) < max 1 a ∧
      (1 < a → (x + (Listing.alignUpN (x + o) a - (x + o)) + o) % a = 0) := alignPad_spec (o, a) x
  exact ⟨by omega, fun d hd => Nat.mod_eq_zero_of_dvd (Nat.dvd_trans hd (Nat.dvd_of_mod_eq_zero (hmod ha)))⟩

/-- **alignment in the listing specification**: with the padding of `layoutPieces` in front of a
piece, every alignment requested at the piece's first aligned offset holds (`x` = address of the
piece before padding, `o` that offset), and the padding is shorter than the strictest of them -/
theorem listing_padding_satisfies_every_request_at_the_first_aligned_offset
    (as : List (Nat × Nat)) (o i x : Nat) (hi : 0 < i)
    (h : Listing.firstAlign as = some (o, 2 ^ i)) (hpow : ∀ p ∈ as, ∃ j, p.2 = 2 ^ j) :
    Listing.alignUpN (x + o) (2 ^ i) - (x + o) < 2 ^ i ∧
    ∀ p ∈ as, p.1 = o → (x + (Listing.alignUpN (x + o) (2 ^ i) - (x + o)) + o) % p.2 = 0 := by
  obtain ⟨hlt, hall⟩ := listing_padding_of_dvd o (2 ^ i) x (Nat.one_lt_two_pow (by omega))
  refine ⟨hlt, fun p hp hpo => hall p.2 ?_⟩
  -- a power of two that is at most the strictest request divides it
  obtain ⟨_, _, hmax⟩ := Listing.firstAlign_spec as o (2 ^ i) h
  obtain ⟨j, hj⟩ := hpow p hp
  have hle : 2 ^ j ≤ 2 ^ i := by rw [← hj]; exact hmax p hp hpo
  rw [hj]
  exact Nat.pow_dvd_pow 2 ((Nat.pow_le_pow_iff_right (by omega : 1 < 2)).mp hle)

/-- **what one appended interval adds**: `fill` (the uninitialized tail of the destination made
explicit) and `pad` (the alignment padding) are the only new bytes in front of the appended ones; each
is whole nops behind code and zeros behind data; the padding is shorter than the boundary and puts the
block whose alignment is asked for on it -/
theorem join_adds_only_padding {nop : List Nat} {alignB : Nat → Option Nat} {st st' : JoinState} {iv : Iv} {alignI : Option Nat}
    (h : joinOne nop alignB st iv alignI = .ok st') (hle : st.dest.contents.length ≤ st.dest.size) (hinv : AddrInv st) :
    ∃ fill pad, PadOk st.last nop fill ∧
      (∃ l1, PadOk l1 nop pad ∧ (l1.map (·.isCode)).getD false = (st.last.map (·.isCode)).getD false) ∧
      st'.dest.contents = st.dest.contents ++ fill ++ pad ++ iv.contents ∧
      fill.length = st.dest.size - st.dest.contents.length ∧
      pad.length < max 1 (wantedAlignment alignB alignI iv).2 ∧
      (1 < (wantedAlignment alignB alignI iv).2 →
        (st.dest.addr.getD 0 + (st.dest.size + pad.length) + (wantedAlignment alignB alignI iv).1) %
          (wantedAlignment alignB alignI iv).2 = 0) := by
  obtain ⟨fill, pad, st2, h1, h2, h3, hp, rfl, _, h7, h8, _⟩ := joinOne_spec h hle hinv
  refine ⟨fill, pad, h2, ⟨st.last, h3, rfl⟩, ?_, h1, h7, h8⟩
  show st2.dest.contents ++ iv.contents = _
  rw [hp.contents, ← List.append_assoc st.dest.contents]

/-- **the whole of `join_byte_intervals`** (two or more intervals, any alignment demands, uninitialized
tails, any nop): the first interval's bytes are a prefix of the result and its blocks stay; every other
interval's bytes sit in the result as they were, its blocks moved by one displacement `base`, and the
block whose alignment is asked for lies at a multiple of its boundary -/
theorem join_places_every_interval_aligned (nop : List Nat) (alignB : Nat → Option Nat) (d : Iv) (ad : Option Nat)
    (p : Iv × Option Nat) (rest : List (Iv × Option Nat)) (nextId : Nat) (r : Iv)
    (h : join nop alignB ((d, ad) :: p :: rest) nextId = .ok r)
    (hd : d.contents.length ≤ d.size) (hall : ∀ q ∈ p :: rest, q.1.contents.length ≤ q.1.size) :
    r.addr = d.addr ∧ (∃ t, r.contents = d.contents ++ t) ∧ (∀ b ∈ d.blocks, b ∈ r.blocks) ∧
    r.contents.length ≤ r.size ∧
    ∀ q ∈ p :: rest, ∃ base, (∀ b ∈ q.1.blocks, ({ b with off := b.off + base } : Blk) ∈ r.blocks) ∧
      (∃ u v, r.contents = u ++ q.1.contents ++ v ∧ u.length = base) ∧
      (1 < (wantedAlignment alignB q.2 q.1).2 →
        (d.addr.getD 0 + base + (wantedAlignment alignB q.2 q.1).1) % (wantedAlignment alignB q.2 q.1).2 = 0) := by
  obtain ⟨st, hst, rfl⟩ := join_ok_iff.mp h
  obtain ⟨_, i2, i3, i4, i5, i6⟩ := joinFold_spec nop alignB (p :: rest) (.init d nextId) st hst hd rfl hall
  exact ⟨i3, i4, i5, i2, i6⟩

/-! ### non-vacuity -/
private def dA : Iv := { addr := some 4096, size := 3, contents := [1, 2], blocks := [⟨1, 0, 2, false⟩], anns := [] }
private def dB : Iv := { addr := none, size := 2, contents := [7, 8], blocks := [⟨2, 0, 2, false⟩], anns := [⟨0, 1, 5⟩] }
/-- an uninitialized byte behind data and an 8-aligned data block behind it: one zero of fill, five of padding
(the same with a code block and the nop 0x90 gives six nops; `repeatTo` is a well-founded recursion that `decide`
does not unfold, the driver evaluates it) -/
example : (match join [144] (fun b => if b = 2 then some 8 else none) [(dA, none), (dB, none)] 100 with
    | .ok r => (r.contents, r.size, r.blocks.map (fun (b : Blk) => (b.id, b.off, b.size)))
    | .error _ => ([], 0, [])) =
    ([1, 2, 0, 0, 0, 0, 0, 0, 7, 8], 10, [(1, 0, 2), (100, 2, 1), (101, 3, 5), (2, 8, 2)]) := by decide
example : Listing.firstAlign [(0, 4), (3, 8), (0, 16)] = some (0, 16) := by decide
private def demo : Iv :=
  { addr := some 4096, size := 6, contents := [1, 2, 3, 4, 5, 6],
    blocks := [⟨1, 0, 2, true⟩, ⟨2, 1, 2, true⟩, ⟨3, 3, 0, false⟩, ⟨4, 4, 2, false⟩],
    anns := [⟨0, 1, 7⟩, ⟨1, 4, 9⟩] }
example : WF demo := ⟨rfl, by decide, by decide⟩
example : (split demo).map (fun i => (i.addr, i.size, i.blocks.length)) = [(some 4096, 3, 2), (some 4099, 1, 1), (some 4100, 2, 1)] := by decide

end GtirbVerif.Props.C10
