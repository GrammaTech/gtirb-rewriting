import GtirbVerif.Lemmas.AsmChunks
import GtirbVerif.Lemmas.AsmTrace
import Std.Data.String.ToNat

/-!
# C13 — assembler symbol discipline and incremental assembly

* **model** — the symbol side of `Asm.assemble` (Model/Asm/Streamer.lean): `precreate`
  (`_SymbolCreator._precreate_label`), `resolveRef` / `resolveTarget` (`_symbol_lookup`,
  `_resolve_symbol`) and `assembleChunks` (one `assemble()` call per chunk, state kept until
  `finalize`).  The real assembler is run on generated texts, whole and in chunks, and compared
  with the model on every run; the real Results are also inspected directly (symbol identity,
  one symbol per name, error classes) and the same patch is inserted up to six times through
  `RewritingContext`.
* **theorems** (for every target, state and event list):
  - `module_name_binds`: a name that is neither a label nor an already created undefined symbol
    and that the module defines resolves to the module's symbol, without creating anything;
    `local_name_first`: a label of the text wins;
  - `unknown_refused` / `unknown_created_once`: an unknown name is an `UndefSymbolError` unless
    undefined symbols are allowed; then one proxy-backed symbol is created, and a second mention
    finds it and creates nothing;
  - `redefinition_refused`: the pre-pass refuses a label whose name is a label already, an
    undefined symbol created earlier, or a module symbol; `precreate_adds`: otherwise it adds
    exactly the chunk's labels, in order;
  - `suffix_separates_copies`, `suffix_keeps_labels_apart`: with the suffix `_<id>` two copies of a
    temporary label with different patch ids get different names, and two different labels of
    one copy stay different;
  - `chunks_eq_whole`: assembling `c1` and then `c2` gives the same state as assembling
    `c1 ++ c2`, for every starting state, as long as `c1` mentions no label that `c2` defines;
  - `one_name_one_symbol`: in every state reachable from the empty one over any chunk list the names
    of the labels and of the undefined symbols created so far are pairwise different and none of
    them is a name of the target module (so a Result never holds two symbols for one name and
    never redefines a module symbol).
-/
namespace GtirbVerif.Props.C13
open GtirbVerif.Asm

theorem local_name_first {t : Target} {st : AState} {n : String} {b : Nat} (h : st.locals.find? (·.1 == n) = some (n, b)) :
    resolveTarget t st n = .ok (st, .block b) := by
  unfold resolveTarget; rw [h]

theorem module_name_binds {t : Target} {st : AState} {n : String}
    (hl : st.locals.find? (·.1 == n) = none) (hu : st.undefs.find? (·.1 == n) = none)
    (hm : t.moduleSyms.find? (·.1 == n) = some (n, true)) :
    resolveTarget t st n = .ok (st, .ext n) := by
  unfold resolveTarget; rw [hl, hu, hm]; rfl

theorem module_name_no_symbol {t : Target} {st : AState} {n : String} (hm : t.moduleSyms.any (·.1 == n) = true) :
    resolveRef t st n = .ok st := by
  unfold resolveRef; simp [hm]

-- `known t st n = false` is `Asm.Unknown t st n` (`Asm.unknown_iff`)
def known (t : Target) (st : AState) (n : String) : Bool :=
  st.locals.any (·.1 == n) || st.undefs.any (·.1 == n) || t.moduleSyms.any (·.1 == n)

theorem unknown_refused {t : Target} {st : AState} {n : String} (hk : known t st n = false) (ha : t.allowUndef = false) :
    resolveRef t st n = .error (.undefSymbol n) := by
  unfold resolveRef; unfold known at hk; simp [hk, ha]

theorem unknown_created_once {t : Target} {st : AState} {n : String} (hk : known t st n = false) (ha : t.allowUndef = true) :
    ∃ st', resolveRef t st n = .ok st' ∧ st'.undefs = st.undefs ++ [(n, st.next)] ∧ st'.proxies = st.proxies ++ [st.next] ∧
      st'.locals = st.locals ∧ resolveRef t st' n = .ok st' := by
  unfold known at hk
  refine ⟨{ st with undefs := st.undefs ++ [(n, st.next)], proxies := st.proxies ++ [st.next], next := st.next + 1 }, ?_, rfl, rfl, rfl, ?_⟩
  · unfold resolveRef; simp [hk, ha]
  · unfold resolveRef; simp

theorem redefinition_refused {t : Target} {st : AState} {n : String} {es : List Event} (hk : known t st n = true) :
    precreate t st (.label n :: es) = .error (.multipleDefinitions n) := by
  unfold known at hk
  simp [precreate, hk]

theorem precreate_adds {t : Target} {st st' : AState} {c : List Event} (h : precreate t st c = .ok st') :
    st' = withLocals st (newLocals st.locals.length c) ∧ namesOf (newLocals st.locals.length c) = labelsOf c :=
  ⟨(precreate_ok.mp h).2, namesOf_newLocals _ _⟩

/-- the name a label gets: temporary labels carry the suffix -/
def symName (suffix : Option String) (temp : Bool) (name : String) : String :=
  match suffix with
  | some s => if temp then name ++ s else name
  | none => name

/-- the suffix `RewritingContext` passes for the patch with this id -/
def patchSuffix (id : Nat) : String := "_" ++ Nat.repr id

theorem suffix_separates_copies (name : String) {i j : Nat} (h : i ≠ j) :
    symName (some (patchSuffix i)) true name ≠ symName (some (patchSuffix j)) true name := by
  simp only [symName, if_true, patchSuffix]
  intro he
  rw [String.append_right_inj, String.append_right_inj] at he
  exact h (Nat.repr_injective he)

theorem suffix_keeps_labels_apart (s : Option String) (temp : Bool) {a b : String} (h : a ≠ b) :
    symName s temp a ≠ symName s temp b := by
  unfold symName
  cases s with
  | none => exact h
  | some x =>
    cases temp
    · simpa using h
    · simp only [if_true]
      intro he
      rw [String.append_left_inj] at he
      exact h he

theorem length_newLocals (k : Nat) (c : List Event) : (newLocals k c).length = (labelsOf c).length := by
  rw [← namesOf_newLocals k c]; simp [namesOf]

theorem one_chunk {t : Target} {st r : AState} {c : List Event} :
    assembleChunks t st [c] = .ok r ↔ ∃ sp, precreate t st c = .ok sp ∧ run t sp c = .ok r := by
  rw [assembleChunks_cons_ok]
  exact ⟨fun ⟨sp, _, h1, h2, h3⟩ => by cases h3; exact ⟨sp, h1, h2⟩, fun ⟨sp, h1, h2⟩ => ⟨sp, r, h1, h2, rfl⟩⟩

theorem two_chunks {t : Target} {st r : AState} {c1 c2 : List Event} :
    assembleChunks t st [c1, c2] = .ok r ↔
      ∃ sp1 sa sp2, precreate t st c1 = .ok sp1 ∧ run t sp1 c1 = .ok sa ∧ precreate t sa c2 = .ok sp2 ∧ run t sp2 c2 = .ok r := by
  simp only [assembleChunks_cons_ok (cs := [c2]), one_chunk]
  exact ⟨fun ⟨sp1, sa, h1, h2, sp2, h3, h4⟩ => ⟨sp1, sa, sp2, h1, h2, h3, h4⟩,
    fun ⟨sp1, sa, sp2, h1, h2, h3, h4⟩ => ⟨sp1, sa, h1, h2, sp2, h3, h4⟩⟩

/-- After the first chunk the second pre-pass sees that chunk's labels, and new undefined symbols
whose names the first chunk mentions: by `hfwd` none of them is a label of the second. -/
private theorem precreate_after_run {t : Target} {st sa sp2 : AState} {c1 c2 : List Event}
    (hfwd : ∀ ev ∈ c1, ∀ n ∈ ev.mentions, n ∉ labelsOf c2)
    (hr : run t (withLocals st (newLocals st.locals.length c1)) c1 = .ok sa) :
    precreate t sa c2 = .ok sp2 ↔ Admits t (withLocals st (newLocals st.locals.length c1)) c2 ∧
      sp2 = withLocals sa (newLocals (st.locals.length + (labelsOf c1).length) c2) := by
  obtain ⟨hl, hu⟩ := (run_evolves hr).unknown
  rw [precreate_ok, hl]
  simp only [withLocals, List.length_append, length_newLocals, Admits]
  refine and_congr_left' (and_congr_right' (forall₂_congr fun n hn => hu n fun hm => ?_))
  obtain ⟨ev, hev, hmn⟩ := List.mem_flatMap.1 hm
  exact hfwd ev hev n hmn hn

/-- **chunked = whole**: if the first chunk mentions no label the second one defines, assembling the
two chunks one after the other reaches exactly the states that assembling their concatenation
reaches (same blocks, edges, symbols, expressions - the whole state). -/
theorem chunks_eq_whole (t : Target) (st : AState) (c1 c2 : List Event)
    (hfwd : ∀ ev ∈ c1, ∀ n ∈ ev.mentions, n ∉ labelsOf c2) (r : AState) :
    assembleChunks t st [c1, c2] = .ok r ↔ assembleChunks t st [c1 ++ c2] = .ok r := by
  rw [two_chunks, one_chunk]
  -- the second chunk's labels may be known while the first is streamed: it does not mention them
  have hL2 : ∀ ev ∈ c1, ∀ n ∈ ev.mentions, n ∉ namesOf (newLocals (st.locals.length + (labelsOf c1).length) c2) := by
    intro ev hev n hn; rw [namesOf_newLocals]; exact hfwd ev hev n hn
  have hw : withLocals st (newLocals st.locals.length c1 ++ newLocals (st.locals.length + (labelsOf c1).length) c2) =
      withLocals (withLocals st (newLocals st.locals.length c1)) (newLocals (st.locals.length + (labelsOf c1).length) c2) := by
    simp [withLocals]
  constructor
  · rintro ⟨sp1, sa, sp2, h1, h2, h3, h4⟩
    obtain ⟨k1, rfl⟩ := precreate_ok.mp h1
    obtain ⟨k3, rfl⟩ := (precreate_after_run hfwd h2).1 h3
    refine ⟨_, precreate_ok.2 ⟨admits_append.2 ⟨k1, k3⟩, rfl⟩, ?_⟩
    rw [newLocals_append, hw, run_append, run_frame hL2, h2]
    exact h4
  · rintro ⟨sp, h1, h2⟩
    obtain ⟨k, rfl⟩ := precreate_ok.mp h1
    rw [admits_append (k := st.locals.length)] at k
    rw [newLocals_append, hw, run_append, run_frame hL2] at h2
    cases hr : run t (withLocals st (newLocals st.locals.length c1)) c1 with
    | error x => rw [hr] at h2; cases h2
    | ok sa =>
      rw [hr] at h2
      exact ⟨_, sa, _, precreate_ok.2 ⟨k.1, rfl⟩, hr, (precreate_after_run hfwd hr).2 ⟨k.2, rfl⟩, h2⟩

/-- **one name, one symbol**: whatever is assembled, in however many chunks, the symbols the
assembler holds (labels and undefined symbols) have pairwise different names, none of which the
target module defines -/
theorem one_name_one_symbol {t : Target} {chunks : List (List Event)} {st : AState}
    (h : assembleChunks t {} chunks = .ok st) :
    (namesOf st.locals ++ namesOf st.undefs).Nodup ∧
    ∀ n ∈ namesOf st.locals ++ namesOf st.undefs, t.moduleSyms.any (·.1 == n) = false :=
  assembleChunks_names (NamesOk.empty t) h

/-! ### the statements are not vacuous -/

def sampleTarget : Target := { moduleSyms := [("modfn", true)], allowUndef := true, trivUnreach := false }

def chunkA : List Event := [.section ".text" true, .label "a", .insn 5 .call false [{ off := 1, size := 4, sym := "ext", addend := 0 }]]
def chunkB : List Event := [.section ".text" true, .label "b", .insn 2 .jmp false [{ off := 1, size := 1, sym := "a", addend := 0 }]]

example : ∀ ev ∈ chunkA, ∀ n ∈ ev.mentions, n ∉ labelsOf chunkB := by decide

example : (assembleChunks sampleTarget {} [chunkA, chunkB]).toOption.map (fun st => (st.locals, st.undefs, st.cfg.length)) =
    some ([("a", 1), ("b", 3)], [("ext", 1)], 5) := by decide

example : (assembleChunks sampleTarget {} [chunkA ++ chunkB]).toOption.map (fun st => (st.locals, st.undefs, st.cfg.length)) =
    some ([("a", 1), ("b", 3)], [("ext", 1)], 5) := by decide

example : symName (some (patchSuffix 7)) true ".Lloop" = ".Lloop_7" := by decide

end GtirbVerif.Props.C13
