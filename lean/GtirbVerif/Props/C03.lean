import GtirbVerif.Lemmas.IRCfg
import GtirbVerif.Lemmas.IRCfgJoin
import GtirbVerif.Spec.FlatCfg

/-!
# C03 — the CFG equals the control flow of the edited listing, per instruction

* **specification** — `FlatCfg.checkCfg` (Spec/FlatCfg.lean): from the instructions an
  independent disassembler finds in the rewritten module's bytes and the symbolic operands, the
  rules say which fallthrough, branch, call and return edges every block must have, that no
  control transfer is buried inside a block, and that every edge endpoint is part of the
  module.  The driver evaluates it on the real output (oracle).
* **model** — the CFG steps of `split_block`, `join_blocks`, `remove_block`, `insert`
  (`IR.splitCode`, `IR.joinCode`, `IR.removeInEdges`/`removeOutEdges`, `IR.insertStitch`,
  `IR.connectEmptyTail`, return-edge maintenance), compared with the real code after every
  recorded operation (correspondence).
* **theorems** (this file, every IR): the edge set after a split in the middle is exactly the
  old one with the block's out-edges re-sourced to the tail, so the head's only successor is
  the connecting fallthrough; joining a non-empty block that does not fall through (it ends in
  a jump or return) with the dead empty block behind it adds no edge — no fallthrough after a
  terminator; the empty tail behind a terminator gets at most the one fallthrough to the code
  that physically follows.

  *No edge starts or ends at a block that left the module*, per operation: after `join_blocks`
  no edge starts or ends at the absorbed block; after `remove_block` has removed a code block no
  edge ends at it, and none starts at it when no return edge left it (Lemmas/IRCfgJoin.lean).

Partial: the composition over whole `insert`/`delete` calls and the return-edge bookkeeping are
decided by the oracle on the real output and by the correspondence, not by a theorem.  The
hypothesis of `remove_leaves_no_edge_from_the_removed_block` is needed: `_remove_outgoing_edges`
hands a block that both calls and returns for the callee's function a fresh return edge to a proxy
after its own out-edges were snapshotted, in the code as in the model (a block ends in one
terminator, so a CFG consistent with its code has no such block).
-/
namespace GtirbVerif.Props.C03
open GtirbVerif GtirbVerif.IR
open GtirbVerif.Adt (CfgNode Label Edge)

/-- bulk `update_edge` over a snapshot: everything not moved stays, every moved edge appears
as its image -/
theorem bulk_update_edges (f : Edge → Edge) (l : List Edge) (hf : ∀ e ∈ l, f e ∉ l) (cfg : List Edge) (e' : Edge) :
    e' ∈ moveEdges f cfg l ↔ (e' ∈ cfg ∧ e' ∉ l) ∨ ∃ e ∈ l, e' = f e := by
  rw [moveEdges_eq_bulk, mem_bulkEdges _ _ (fun e he e1 h => by cases h; exact hf e he)]
  simp only [Option.some.injEq, eq_comm]

/-- **split in the middle**: the out-edges of the block now leave from the tail and nothing else
changed -/
theorem split_mid_moves_out_edges_to_tail (ir : IR) (b nb : Nat) (hne : nb ≠ b) (e' : Edge) :
    e' ∈ (ir.splitEdgesMid b nb).cfg ↔
      (e' ∈ ir.cfg ∧ e'.src ≠ .block b) ∨ ∃ e ∈ ir.cfg, e.src = .block b ∧ e' = updSrc e (.block nb) := by
  unfold IR.splitEdgesMid
  -- a moved edge leaves from the tail: it is not itself an out-edge of the block
  rw [foldl_updateEdge_bulk (fun e => updSrc e (.block nb)), ← moveEdges_eq_bulk,
    bulk_update_edges _ _ (fun e _ h => hne (CfgNode.block.inj ((mem_outEdges ir b _).mp h).2))]
  simp only [mem_outEdges, and_assoc]
  exact or_congr_left ⟨fun ⟨h1, h2⟩ => ⟨h1, fun h => h2 ⟨h1, h⟩⟩, fun ⟨h1, h2⟩ => ⟨h1, fun h => h2 h.2⟩⟩

/-- … so the head has no successor but the connecting fallthrough -/
theorem split_mid_head_only_falls_through (ir : IR) (b nb : Nat) (hne : nb ≠ b) :
    ((ir.splitEdgesMid b nb).addFall b nb).outEdges b =
      [{ src := .block b, dst := .block nb, label := fallLabel }] := by
  have h0 : (ir.splitEdgesMid b nb).outEdges b = [] := by
    rw [List.eq_nil_iff_forall_not_mem]
    intro e' he
    obtain ⟨hm, hs⟩ := (mem_outEdges _ b e').mp he
    rcases (split_mid_moves_out_edges_to_tail ir b nb hne e').mp hm with ⟨_, h⟩ | ⟨e, _, _, rfl⟩
    · exact h hs
    · exact hne (CfgNode.block.inj hs)
  unfold IR.addFall IR.outEdges at *
  simp only []
  unfold cfgAdd
  split
  · rename_i hin
    have : ({ src := CfgNode.block b, dst := CfgNode.block nb, label := fallLabel } : Edge) ∈
        List.filter (fun e => e.src == CfgNode.block b) (ir.splitEdgesMid b nb).cfg := by
      simp [List.mem_filter, hin]
    rw [h0] at this
    cases this
  · simp [List.filter_append, h0]

/-- **never a fallthrough after a jump or return through joining**: block1 has bytes, block2 is
empty, block1 does not fall through into block2 ⇒ joining adds no edge -/
theorem join_does_not_inherit_dead_fallthrough (ir : IR) (b1 : Block) (id2 : Nat) (h1 : b1.size ≠ 0)
    (hflow : (ir.inEdges id2).any (fun e => Edge.isFall e && e.src == .block b1.id) = false) :
    ∀ e ∈ (ir.joinCode b1 id2 0).cfg, e ∈ ir.cfg := by
  unfold IR.joinCode
  extract_lets flowsIn i1 i2 i3
  rw [removeFunctionBlock_cfg]
  -- every loop that runs only discards edges
  have drop : ∀ (l : List Edge) (x : IR), ∀ e ∈ (l.foldl (fun (ir : IR) e => { ir with cfg := cfgDiscard ir.cfg e }) x).cfg,
      e ∈ x.cfg := foldl_shrinks _ (fun _ _ _ h => ((mem_cfgDiscard _ _ _).mp h).1)
  have s1 : ∀ e ∈ i1.cfg, e ∈ ir.cfg := foldl_shrinks _ (fun _ _ _ h => by
    split at h
    · exact ((mem_cfgDiscard _ _ _).mp h).1
    · exact h) _ _
  have s2 : ∀ e ∈ i2.cfg, e ∈ i1.cfg := by
    unfold i2
    rw [if_neg (by simpa using h1)]
    exact drop _ _
  have s3 : ∀ e ∈ i3.cfg, e ∈ i2.cfg := by
    unfold i3
    rw [if_pos (by simp [h1, flowsIn, hflow])]
    exact drop _ _
  exact fun e he => s1 e (s2 e (s3 e he))

/-- the empty tail behind a terminator gets at most one new edge: a fallthrough to the code
block that follows, and only if it had no successor -/
theorem empty_tail_falls_to_next_code (ir : IR) (t : Nat) (e' : Edge) (h : e' ∈ (ir.connectEmptyTail t).cfg) :
    e' ∈ ir.cfg ∨ (∃ n, e' = { src := .block t, dst := .block n, label := fallLabel } ∧
      (ir.outEdges t).isEmpty ∧ ir.isCodeBlockId (some n)) := by
  unfold IR.connectEmptyTail at h
  split at h
  · exact Or.inl h
  · split at h
    · rename_i hc
      split at h
      · rename_i n _
        split at h
        · rename_i hn
          unfold IR.addFall at h
          rcases (mem_cfgAdd _ _ _).mp h with h | h
          · exact Or.inl h
          · refine Or.inr ⟨n, h, ?_, hn⟩
            simp only [Bool.and_eq_true] at hc
            exact hc.2
        · exact Or.inl h
      · exact Or.inl h
    · exact Or.inl h

/-! ### non-vacuity -/
private def e0 : Edge := { src := .block 1, dst := .block 2, label := fallLabel }
example : moveEdges (fun e => updSrc e (.block 9)) [e0] [e0] = [{ src := .block 9, dst := .block 2, label := fallLabel }] := by decide

/-- **join: no edge is left on the absorbed block** -/
theorem join_leaves_no_edge_on_the_absorbed_block {ir ir' : IR} {id1 id2 : Nat} {b1 b2 : Block}
    (h : ir.joinBlocks id1 id2 = .ok ir') (h1 : ir.block? id1 = some b1) (h2 : ir.block? id2 = some b2)
    (hne : id1 ≠ id2) (hcode : b2.isCode = true) :
    ∀ e ∈ ir'.cfg, e.src ≠ .block id2 ∧ e.dst ≠ .block id2 :=
  joinBlocks_no_edge_on_block2 h h1 h2 hne hcode

/-- **remove: no edge ends at the removed block** (a code block; the next block the ordering names
is another block) -/
theorem remove_leaves_no_edge_into_the_removed_block {ir ir' : IR} {b : Nat} {px : Bool} {blk : Block}
    (h : ir.removeBlock b px = .ok (ir', true)) (hb : ir.block? b = some blk) (hcode : blk.isCode = true)
    (hnext : px = false → (ir.adjacent blk).2.getD 0 ≠ b) :
    ∀ e ∈ ir'.cfg, e.dst ≠ .block b :=
  removeBlock_no_in_edge h hb hcode hnext

/-- **remove: no edge starts at the removed block** (a code block that no return edge leaves) -/
theorem remove_leaves_no_edge_from_the_removed_block {ir ir' : IR} {b : Nat} {px : Bool} {blk : Block}
    (h : ir.removeBlock b px = .ok (ir', true)) (hb : ir.block? b = some blk) (hcode : blk.isCode = true)
    (hnr : ∀ e ∈ ir.cfg, e.src = .block b → Edge.isRet e = false) :
    ∀ e ∈ ir'.cfg, e.src ≠ .block b :=
  removeBlock_no_out_edge h hb hcode hnr

end GtirbVerif.Props.C03
